-- Root of the NettyVerif library: the property modules (Props) pull in models, generated files and proofs.
import NettyVerif.Props.C01
import NettyVerif.Props.C02
import NettyVerif.Props.C03
import NettyVerif.Props.C04
import NettyVerif.Props.C05
import NettyVerif.Props.C06
import NettyVerif.Props.C07
import NettyVerif.Props.C08
import NettyVerif.Props.C09
import NettyVerif.Props.C10
import NettyVerif.Props.C11
import NettyVerif.Props.C12
import NettyVerif.Props.C13
import NettyVerif.Props.C14
import NettyVerif.Props.C15
import NettyVerif.Props.C16
import NettyVerif.Props.C17
import NettyVerif.Props.C18
import NettyVerif.Props.C19
import NettyVerif.Props.C20
