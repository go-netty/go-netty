import NettyVerif.Model.VarLen
import NettyVerif.Base.Chunks
namespace NettyVerif.VarLen

theorem step_cons (max : Nat) (c : Bytes) (cs : List Bytes) :
    step max (c :: cs) = .msg (c.take max) (if c.length ≤ max then cs else c.drop max :: cs) := by
  simp only [step]
  split <;> simp [List.take_of_length_le, *]

theorem step_msg {max : Nat} {cs : List Bytes} {m : Bytes} {rest : List Bytes} (h : step max cs = .msg m rest) :
    ∃ c cs', cs = c :: cs' ∧ m = c.take max ∧ rest = if c.length ≤ max then cs' else c.drop max :: cs' := by
  cases cs with
  | nil => simp [step] at h
  | cons c cs => rw [step_cons] at h; injection h with h1 h2; exact ⟨c, cs, rfl, h1.symm, h2.symm⟩

theorem run_bounded (max : Nat) : ∀ (fuel : Nat) (cs : List Bytes), ∀ m ∈ run max fuel cs, m.length ≤ max
  | 0, _ => by simp [run]
  | fuel+1, [] => by simp [run, step]
  | fuel+1, c :: cs => by
    simp only [run, step_cons, List.mem_cons, forall_eq_or_imp, List.length_take]
    exact ⟨by omega, run_bounded max fuel _⟩

theorem run_prefix (max : Nat) : ∀ (fuel : Nat) (cs : List Bytes), ∃ tail, (run max fuel cs).flatten ++ tail = cs.flatten
  | 0, cs => ⟨cs.flatten, by simp [run]⟩
  | fuel+1, [] => ⟨[], by simp [run, step]⟩
  | fuel+1, c :: cs => by
    obtain ⟨t, ht⟩ := run_prefix max fuel (if c.length ≤ max then cs else c.drop max :: cs)
    exact ⟨t, by simp only [run, step_cons, List.flatten_cons, List.append_assoc, ht, take_rest_flatten]⟩

end NettyVerif.VarLen
