import NettyVerif.Proofs.Pmath
namespace NettyVerif.Pool
open NettyVerif.Pmath

def IsPow2 (n : Nat) : Prop := ∃ k, n = 2^k

theorem ceilNat_pow2 (n : Nat) (h : 1 ≤ n) : IsPow2 (ceilNat n) := by
  unfold ceilNat
  split
  · rename_i h2
    rcases (show n = 1 ∨ n = 2 by omega) with rfl | rfl
    · exact ⟨0, rfl⟩
    · exact ⟨1, rfl⟩
  · exact ⟨_, rfl⟩

theorem ceilNat_ge (n : Nat) : n ≤ ceilNat n := by
  by_cases h : n ≤ 2
  · simp [ceilNat, h]
  · exact (ceilNat_spec n (by omega)).1

theorem ceilNat_two_pow : ∀ k, ceilNat (2^k) = 2^k
  | 0 => rfl
  | k+1 => by
    by_cases h : 2^(k+1) ≤ 2
    · rw [ceilNat, if_pos h]
    · rw [ceilNat_of_gt (by omega), (Nat.log2_eq_iff (k := k) (by omega)).2 ⟨by omega, by omega⟩]

theorem mkCfg_spec (mx : Int) :
    IsPow2 (mkCfg mx).step ∧ 1 ≤ (mkCfg mx).shards ∧ (mkCfg mx).shards ≤ 64 ∧
    (mkCfg mx).step * (mkCfg mx).shards = ceilNat (if mx < 1 then 1 else mx.toNat) := by
  obtain ⟨k, hk⟩ := ceilNat_pow2 (if mx < 1 then 1 else mx.toNat) (by split <;> omega)
  -- 2^k bytes are served by 2^j shards of 2^(k-j), j = min k 6
  obtain ⟨j, hjk, hj6, hmin⟩ : ∃ j, j ≤ k ∧ 2^j ≤ 64 ∧ max 1 (min (2^k) 64) = 2^j := by
    have hpos : 0 < 2^k := Nat.pow_pos (by omega)
    by_cases h6 : k ≤ 6
    · have := Nat.pow_le_pow_right (show 0 < 2 by omega) h6
      exact ⟨k, Nat.le_refl _, this, by omega⟩
    · have := Nat.pow_le_pow_right (show 0 < 2 by omega) (show 6 ≤ k by omega)
      exact ⟨6, by omega, Nat.le_refl _, by omega⟩
  have e3 : 2^(k-j) * 2^j = 2^k := by rw [← Nat.pow_add, Nat.sub_add_cancel hjk]
  unfold mkCfg
  simp only [hk, hmin, Nat.pow_div hjk (show 0 < 2 by omega), ceilNat_two_pow, e3, Nat.lt_irrefl, ite_false]
  exact ⟨⟨_, rfl⟩, Nat.pow_pos (by omega), hj6, trivial⟩

/-- well-formed configurations (what `New` produces) -/
structure Cfg.WF (c : Cfg) : Prop where
  pow2 : IsPow2 c.step

-- `IsPow2 n` is core's `n.isPowerOfTwo`, unfolded
theorem Cfg.WF.pos {c : Cfg} (h : c.WF) : 0 < c.step := Nat.pos_of_isPowerOfTwo h.pow2

theorem mkCfg_WF (mx : Int) : (mkCfg mx).WF := ⟨(mkCfg_spec mx).1⟩

theorem size_spec (c : Cfg) (h : c.WF) (i : Int) :
    i ≤ (c.size i : Int) ∧ c.step ≤ c.size i ∧ c.step ∣ c.size i := by
  unfold Cfg.size
  split
  · rename_i hle; exact ⟨hle, Nat.le_refl _, Nat.dvd_refl _⟩
  · rename_i hgt
    have hge := ceilNat_ge i.toNat
    refine ⟨by omega, by omega, ?_⟩
    obtain ⟨s, hs⟩ := h.pow2
    obtain ⟨k, hk⟩ := ceilNat_pow2 i.toNat (by omega)
    rw [hs, hk]
    apply Nat.pow_dvd_pow
    have : 2^s < 2^k := by rw [← hs, ← hk]; omega
    have := (Nat.pow_lt_pow_iff_right (show 1 < 2 by omega)).1 this
    omega

theorem size_idem (c : Cfg) (_h : c.WF) (i : Int) : c.size (c.size i) = c.size i := by
  unfold Cfg.size
  split
  · simp
  · rename_i hgt
    have hge := ceilNat_ge i.toNat
    obtain ⟨k, hk⟩ := ceilNat_pow2 i.toNat (by omega)
    have : ¬ ((ceilNat i.toNat : Nat) : Int) ≤ (c.step : Int) := by omega
    simp only [this, ite_false, Int.toNat_natCast]
    rw [hk, ceilNat_two_pow]

theorem idx_inj {step a b : Nat} (ha : step ∣ a) (hb : step ∣ b)
    (ha0 : 0 < a) (hb0 : 0 < b) (h : (a - 1) / step = (b - 1) / step) : a = b := by
  obtain ⟨x, rfl⟩ := ha
  obtain ⟨y, rfl⟩ := hb
  have hx : 0 < x := Nat.pos_of_mul_pos_left ha0
  have hy : 0 < y := Nat.pos_of_mul_pos_left hb0
  rw [Nat.mul_sub_div 0 step x ha0, Nat.mul_sub_div 0 step y hb0, Nat.zero_div] at h
  rw [show x = y by omega]

/-- shard invariant of the repaired pool: every pooled item sits in the shard of its own
    capacity, and that capacity is exactly a size class -/
def PInv (s : St) : Prop :=
  ∀ i it, (i, it) ∈ s.items → s.cfg.size it.cap = it.cap ∧ (it.cap - 1) / s.cfg.step = i

theorem step_get_eq_some {putIdx : Cfg → Nat → Option Nat} {s s' : St} {size : Int} {res : Item} {fresh : Bool}
    (h : step putIdx s (.get size res fresh) = some s') :
    (fresh = true ∧ res.cap = s.cfg.size size ∧ s' = s) ∨
    (fresh = false ∧ ∃ i, i = (s.cfg.size size - 1) / s.cfg.step ∧ (i, res) ∈ s.items ∧
      s' = { s with items := s.items.erase (i, res) }) := by
  simp only [step, Cfg.getIdx] at h
  split at h
  · rename_i hf
    by_cases hc : res.cap = s.cfg.size size <;> simp [hc] at h
    exact Or.inl ⟨hf, hc, h.symm⟩
  · rename_i hf
    split at h
    · simp at h
    · rename_i i hidx
      split at h <;> simp at h
      rename_i hm
      split at hidx <;> simp at hidx
      exact Or.inr ⟨by simpa using hf, i, hidx.symm, hm, h.symm⟩

theorem step_eq_some {putIdx : Cfg → Nat → Option Nat} {s s' : St} {o : Op} (h : step putIdx s o = some s') :
    s'.cfg = s.cfg ∧ (s'.items.Sublist s.items ∨
      ∃ it i, o = .put it ∧ putIdx s.cfg it.cap = some i ∧ s'.items = (i, it) :: s.items) := by
  cases o with
  | get size res fresh =>
    rcases step_get_eq_some h with ⟨_, _, rfl⟩ | ⟨_, i, _, _, rfl⟩
    · exact ⟨rfl, .inl (.refl _)⟩
    · exact ⟨rfl, .inl List.erase_sublist⟩
  | put it =>
    simp only [step] at h
    split at h <;> cases h
    · exact ⟨rfl, .inl (.refl _)⟩
    · rename_i i hp; exact ⟨rfl, .inr ⟨it, i, rfl, hp, rfl⟩⟩
  | drop i => cases h; exact ⟨rfl, .inl (List.eraseIdx_sublist ..)⟩

theorem putIdx_eq_some {c : Cfg} {cap i : Nat} (h : c.putIdx cap = some i) : c.size cap = cap ∧ (cap - 1) / c.step = i := by
  simp only [Cfg.putIdx] at h
  split at h
  · cases h
  · split at h
    · split at h
      · rename_i hsz; exact ⟨hsz, Option.some.inj h⟩
      · cases h
    · cases h

theorem pinv_step {s s' : St} {o : Op} (hI : PInv s) (h : step Cfg.putIdx s o = some s') : PInv s' := by
  obtain ⟨hc, hs | ⟨it, i, _, hp, hs⟩⟩ := step_eq_some h <;> intro j jt hm <;> rw [hc]
  · exact hI j jt (hs.subset hm)
  · rw [hs, List.mem_cons] at hm
    rcases hm with heq | hm
    · cases heq; exact putIdx_eq_some hp
    · exact hI j jt hm

end NettyVerif.Pool
