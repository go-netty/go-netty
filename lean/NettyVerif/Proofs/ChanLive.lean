import NettyVerif.Proofs.Chan
/-! Liveness of the write path: each of the framework's own steps decreases a lexicographic measure, and
    when they are exhausted with all write calls returned, nothing is left to run. -/
namespace NettyVerif.Chan
variable {α : Type}

/-- the framework's own steps: the executor starting the sender, the owner's steps, the released
    sender's re-check — everything that happens without a client doing anything -/
def Act.framework : Act α → Bool
  | .exec | .sndRecv | .sndDefault | .sndWritev _ | .sndPut | .sndLen1 | .sndFlush _ | .sndStore
  | .sndFailMark | .sndFailStore | .lingLen _ | .lingCas _ => true
  | _ => false

/-- a bound on the steps a control token can still take while the queue keeps its size: the longest path from
    its program point (`failed` 2 and `failedStore` 1 are the failure path; on a non-empty queue `writev` counts one
    more than its success path needs, so that a failing Writev, which goes to `failed`, decreases whatever the length
    of the batch). With the queue non-empty `poll` can only receive (which shortens the queue: 0), and a
    sender that releases will re-acquire, so `flush` / `store` count the released sender's `len2`, `cas`
    too; with it empty the owner runs on through Writev, the recycling, `len1`, `flush`, `store` and the
    released `len2`. A token that can still start an owner (`exec`, a released `cas`) counts that owner's
    `poll` with an empty batch plus one: 7, or 1 if the queue is non-empty. -/
def rSnd (qEmpty : Bool) (batch : Nat) : SPc → Nat
  | .poll => if qEmpty then batch + 6 else 0
  | .writev => if qEmpty then batch + 5 else batch + 3
  | .put k => if qEmpty then k + 4 else k + 1
  | .len1 => if qEmpty then 4 else 1
  | .flush => if qEmpty then 3 else 4
  | .store => if qEmpty then 2 else 3
  | .failed => 2
  | .failedStore => 1

def rLing (qEmpty : Bool) : LPc → Nat
  | .len2 => if qEmpty then 1 else 2
  | .cas => if qEmpty then 7 else 1

def rExec (qEmpty : Bool) : Nat := if qEmpty then 7 else 1

def pot (s : St α) : Nat :=
  (match s.snd with | some x => rSnd s.q.isEmpty s.batch.length x | none => 0) +
  s.execPending * rExec s.q.isEmpty + ((s.lingering.map (rLing s.q.isEmpty)).sum)

theorem sum_eraseIdx {β : Type} (f : β → Nat) : ∀ (l : List β) (i : Nat) (x : β), l[i]? = some x →
    ((l.eraseIdx i).map f).sum + f x = (l.map f).sum
  | [], i, x, h => by simp at h
  | y :: l, 0, x, h => by simp at h; subst h; simp; omega
  | y :: l, i+1, x, h => by
    have := sum_eraseIdx f l i x h
    simp only [List.eraseIdx, List.map_cons, List.sum_cons]; omega

theorem sum_set {β : Type} (f : β → Nat) (l : List β) (i : Nat) (x y : β) (h : l[i]? = some x) :
    ((l.set i y).map f).sum + f x = (l.map f).sum + f y := by
  have h1 := sum_eraseIdx f (l.set i y) i y (List.getElem?_set_self (List.getElem?_eq_some_iff.1 h).1)
  have h2 := sum_eraseIdx f l i x h
  rw [List.eraseIdx_set_eq] at h1
  omega

theorem fw_decreases {s s' : St α} {a : Act α} (ha : a.framework = true) (hs : step s a = some s') :
    s'.q.length < s.q.length ∨ (s'.q = s.q ∧ pot s' < pot s) := by
  -- only `sndRecv` shortens the queue; every other step leaves it alone and moves one token down its table:
  -- `sum_set` is for `lingLen` on a non-empty queue (`len2` becomes `cas`), `sum_eraseIdx` wherever a released sender leaves
  cases a <;> simp [Act.framework] at ha <;> step_cases step hs <;> simp only [pot] <;>
    grind [rSnd, rLing, rExec, sum_eraseIdx, sum_set]

/-- one framework step (any of them, transport calls succeeding or failing); the successor comes first, as `WellFounded` reads it -/
def FwStep (s' s : St α) : Prop := ∃ a : Act α, a.framework = true ∧ step s a = some s'

/-- framework steps in which the transport does not fail -/
def Act.frameworkOk : Act α → Bool
  | .sndWritev false | .sndFlush false => false
  | a => a.framework

/-- the clients are done and nobody is closing: every write call has returned -/
def St.clientsDone (s : St α) : Prop :=
  s.pendingCas = 0 ∧ s.inflight = 0 ∧ s.closer = none ∧ s.lockHeld = false ∧ s.broken = false

theorem clientsDone_step {s s' : St α} {a : Act α} (ha : a.frameworkOk = true) (hd : s.clientsDone) (hs : step s a = some s') :
    s'.clientsDone := by
  -- of the five fields the framework's steps write only `broken`, and only where the transport fails
  cases a <;> simp [Act.frameworkOk, Act.framework] at ha <;> step_cases step hs <;> simp_all [St.clientsDone]

theorem clientsDone_run {acts : List (Act α)} {s s' : St α} (hfw : ∀ a ∈ acts, a.frameworkOk = true)
    (hd : s.clientsDone) (hr : run s acts = some s') : s'.clientsDone :=
  run_invariant_of clientsDone_step hfw hd hr

/-- the third conjunct is for `stuck_is_quiescent`, whose premise speaks only of steps in which the transport
    does not fail -/
theorem fw_enabled {s : St α} (hinv : WInv s) (hbusy : s.execPending > 0 ∨ s.snd.isSome ∨ s.lingering ≠ []) :
    ∃ a : Act α, a.framework = true ∧ (step s a).isSome = true ∧ (s.trClosed = false → a.frameworkOk = true) := by
  have hat := hinv.atSnd
  cases hs : s.snd with
  | some pc =>
    rw [hs] at hat
    cases pc with
    | poll =>
      cases hq : s.q with
      | nil => exact ⟨.sndDefault, rfl, by simp [step, hs, hq], fun _ => rfl⟩
      | cons p rest => exact ⟨.sndRecv, rfl, by simp [step, hs, hq], fun _ => rfl⟩
    | writev =>
      have hb : s.batch ≠ [] := hat
      cases htc : s.trClosed with
      | false => exact ⟨.sndWritev true, rfl, by simp [step, hs, hb, htc], fun _ => rfl⟩
      | true => exact ⟨.sndWritev false, rfl, by simp [step, hs, hb], by simp⟩
    | put k =>
      obtain ⟨k', rfl⟩ : ∃ k', k = k' + 1 := ⟨k - 1, by have : 0 < k := hat.2; omega⟩
      exact ⟨.sndPut, rfl, by simp [step, hs], fun _ => rfl⟩
    | len1 => exact ⟨.sndLen1, rfl, by simp [step, hs], fun _ => rfl⟩
    | flush => exact ⟨.sndFlush true, rfl, by simp [step, hs], fun _ => rfl⟩
    | store => exact ⟨.sndStore, rfl, by simp [step, hs], fun _ => rfl⟩
    | failed => exact ⟨.sndFailMark, rfl, by simp [step, hs], fun _ => rfl⟩
    | failedStore => exact ⟨.sndFailStore, rfl, by simp [step, hs], fun _ => rfl⟩
  | none =>
    by_cases he : s.execPending = 0
    · cases hl : s.lingering with
      | nil => simp [he, hs, hl] at hbusy
      | cons l ls =>
        cases l with
        | len2 => exact ⟨.lingLen 0, rfl, by simp only [step, hl]; simp; split <;> simp, fun _ => rfl⟩
        | cas => exact ⟨.lingCas 0, rfl, by simp only [step, hl]; simp; cases s.running <;> simp [hs], fun _ => rfl⟩
    · exact ⟨.exec, rfl, by simp [step, hs, he], fun _ => rfl⟩

theorem WInv.quiescent_clean {s : St α} (hinv : WInv s) (hb : s.broken = false) (hq : s.quiescent = true) :
    s.q = [] ∧ s.batch = [] ∧ s.wire = s.accepted ∧ s.flushed = s.accepted.length := by
  simp only [St.quiescent, Bool.and_eq_true, beq_iff_eq, Option.isNone_iff_eq_none, List.isEmpty_iff,
    Bool.not_eq_true'] at hq
  obtain ⟨⟨⟨⟨⟨⟨h1, -⟩, h2⟩, h3⟩, h4⟩, -⟩, h6⟩ := hq
  -- no owner token, so the flag is free; then nobody is left to send, so nothing is queued
  have hr0 : s.running = false := by simpa [h2, h3] using hinv.owner
  have hqe : s.q = [] := Classical.byContradiction fun hq => by simpa [hr0, h1, h4] using hinv.noStrand hb hq
  have hbatch := hinv.idle_clean hb hr0
  have hfifo : s.accepted = s.wire := by simpa [hbatch, hqe] using hinv.fifo hb
  exact ⟨hqe, hbatch, hfifo.symm, by rw [hinv.idleFlushed hb hr0 h6, hfifo]⟩

theorem stuck_is_quiescent {s : St α} (hinv : WInv s) (hd : s.clientsDone)
    (hmax : ∀ a : Act α, a.frameworkOk = true → step s a = none) : s.quiescent = true := by
  obtain ⟨h1, h2, h3, h4, h5⟩ := hd
  have htc : s.trClosed = false := Bool.eq_false_iff.2 fun h => by simp [hinv.closedBroken h] at h5
  have hidle : ¬ (s.execPending > 0 ∨ s.snd.isSome ∨ s.lingering ≠ []) := fun hbusy => by
    obtain ⟨a, -, hen, hok⟩ := fw_enabled hinv hbusy
    simp [hmax a (hok htc)] at hen
  simp only [St.quiescent, h1, h2, h3, h4]
  grind

end NettyVerif.Chan
