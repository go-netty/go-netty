import NettyVerif.Model.Panic
/-! Lemmas about the nested-reaction model (C07): projections of the trace onto one exception value. -/
namespace NettyVerif.Panic
open NettyVerif.Pipeline

/-- the chain of exception handlers from position i: positions, and whether the tail is reached -/
def chain : Nat → List PHandler → List Nat × Bool
  | _, [] => ([], true)
  | i, p :: rest =>
    if p.h.implements .exception then
      if p.h.forwards .exception then let r := chain (i+1) rest; (i :: r.1, r.2) else ([i], false)
    else chain (i+1) rest

theorem fireException_chain (hs : List PHandler) : fireException hs = chain 1 hs := by
  suffices h : ∀ (i : Nat) (l : List PHandler),
      ((deliverUpP .exception i (l.map (fun p => { p with pan := 0 }))).1,
       (deliverUpP .exception i (l.map (fun p => { p with pan := 0 }))).2 == .fin .close) = chain i l from h 1 hs
  intro i l
  induction l generalizing i with
  | nil => simp [deliverUpP, chain]
  | cons p rest ih =>
    simp only [List.map_cons, deliverUpP, chain, PHandler.panics, Nat.zero_testBit, Bool.false_eq_true, ite_false,
      ← ih (i+1)]
    repeat' split
    all_goals simp

@[simp] theorem excOf_nil (w : PVal) : excOf w [] = [] := rfl
@[simp] theorem excOf_append (w : PVal) (a b : List TEv) : excOf w (a ++ b) = excOf w a ++ excOf w b := by
  simp [excOf, List.filterMap_append]

@[simp] theorem excOf_cons_exc (w v : PVal) (p : Nat) (t : List TEv) :
    excOf w (.exc p v :: t) = (if v = w then [p] else []) ++ excOf w t := by
  by_cases h : v = w <;> simp [excOf, h]

@[simp] theorem excOf_visits (w : PVal) (k : Kind) (l : List Nat) : excOf w (l.map (fun p => TEv.visit k p)) = [] := by
  simp [excOf]

@[simp] theorem excOf_excs (w v : PVal) (l : List Nat) :
    excOf w (l.map (fun p => TEv.exc p v)) = if v = w then l else [] := by
  split <;> simp [excOf, List.filterMap_map, Function.comp_def, *]

theorem chain_sublist (i : Nat) (l : List PHandler) : (chain i l).1.Sublist (List.range' i l.length) := by
  induction l generalizing i with
  | nil => simp [chain]
  | cons p rest ih =>
    simp only [chain, List.length_cons, List.range'_succ]
    repeat' split
    · exact (ih _).cons_cons _
    · simp
    · exact (ih _).cons _

/-- the pass with a reacting handler is the plain chain with the reaction `N` spliced in after the
    reactor's own delivery -/
theorem excReact_eq (v : PVal) (r : Nat) (N : List TEv) (i : Nat) (l : List PHandler) :
    excReact v r N i l =
      ((chain i l).1.flatMap (fun j => TEv.exc j v :: if j = r then N else []), (chain i l).1.any (· == r), (chain i l).2) := by
  induction l generalizing i with
  | nil => simp [excReact, chain]
  | cons p rest ih =>
    simp only [excReact, chain, ih (i+1)]
    repeat' split
    all_goals simp [*]

theorem excReact_reacted (v : PVal) (r : Nat) (N : List TEv) (i : Nat) (l : List PHandler) :
    (excReact v r N i l).2.1 = true ↔ r ∈ (chain i l).1 := by simp [excReact_eq]

theorem excReact_tail (v : PVal) (r : Nat) (N : List TEv) (i : Nat) (l : List PHandler) :
    (excReact v r N i l).2.2 = (chain i l).2 := by rw [excReact_eq]

theorem excOf_flatMap (w : PVal) (f : Nat → List TEv) (js : List Nat) :
    excOf w (js.flatMap f) = js.flatMap fun j => excOf w (f j) := List.filterMap_flatMap

theorem flatMap_ite_nodup {α β} [DecidableEq α] (r : α) (X : List β) : ∀ {l : List α}, l.Nodup →
    (l.flatMap fun j => if j = r then X else []) = if r ∈ l then X else []
  | [], _ => rfl
  | a :: l, h => by
    have ⟨ha, hl⟩ := List.nodup_cons.1 h
    by_cases e : a = r
    · subst e; simp [flatMap_ite_nodup a X hl, ha]
    · simp [flatMap_ite_nodup r X hl, e, Ne.symm e]

theorem nestedInvoke_panic {hs : List PHandler} {hf : Option PVal} {k : Kind} {vis : List Nat} {pos : Nat} {v2 : PVal}
    (hp : deliverP hs hf k (if k = .write then hs.length + 1 else 0) = (vis, .panic pos v2)) :
    (∀ w, excOf w (nestedInvoke hs hf k).1 = if v2 = w then (chain 1 hs).1 else []) ∧
    (nestedInvoke hs hf k).2 = (if (chain 1 hs).2 || v2.isFatalNet then some v2 else none) := by
  simp only [nestedInvoke, hp, excPlain, fireException_chain, excOf_append, excOf_visits, excOf_excs, List.nil_append,
    implies_true, and_self]

theorem nestedInvoke_fin {hs : List PHandler} {hf : Option PVal} {k : Kind} {vis : List Nat} {f : Final}
    (hp : deliverP hs hf k (if k = .write then hs.length + 1 else 0) = (vis, .fin f)) :
    (∀ w, excOf w (nestedInvoke hs hf k).1 = []) ∧ (nestedInvoke hs hf k).2 = none := by
  simp only [nestedInvoke, hp, excOf_visits, implies_true, and_self]

/-- projected on the travelling value the pass is the chain, whatever the reaction (which does not carry `v`) -/
theorem excOf_excReact_self {v : PVal} {N : List TEv} (hN : excOf v N = []) (r i : Nat) (l : List PHandler) :
    excOf v (excReact v r N i l).1 = (chain i l).1 := by
  rw [excReact_eq, excOf_flatMap]
  simp [apply_ite (excOf v), hN]

/-- projected on another value it is the reaction's projection, once, if the reactor is on the chain -/
theorem excOf_excReact_other {v w : PVal} (hvw : v ≠ w) (r : Nat) (N : List TEv) (i : Nat) (l : List PHandler) :
    excOf w (excReact v r N i l).1 = if r ∈ (chain i l).1 then excOf w N else [] := by
  rw [excReact_eq, excOf_flatMap, ← flatMap_ite_nodup r _ ((chain_sublist i l).nodup (List.nodup_range' ..))]
  simp [apply_ite (excOf w), hvw]

/-- a reactor that the pass does not come by (position 0, the head, in `C07_reactor_absent`) leaves the plain chain -/
theorem excReact_none (v : PVal) (N : List TEv) {r i : Nat} (hr : r < i) (l : List PHandler) :
    excReact v r N i l = ((chain i l).1.map (fun p => TEv.exc p v), false, (chain i l).2) := by
  have h0 : ∀ j ∈ (chain i l).1, j ≠ r := fun j hj => by
    obtain ⟨_, _, rfl⟩ := List.mem_range'.1 ((chain_sublist i l).subset hj); omega
  rw [excReact_eq]
  generalize (chain i l).1 = js at h0
  induction js <;> simp_all

end NettyVerif.Panic
