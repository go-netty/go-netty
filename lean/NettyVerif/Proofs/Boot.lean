import NettyVerif.Model.Boot
import NettyVerif.Base.Run
namespace NettyVerif.Boot

structure LInv (s : LSt) : Prop where
  rangeCtx : s.rangeStarted = true → s.ctxDone = true
  doneStarted : s.rangeDone = true → s.rangeStarted = true
  notReg : s.reg = false → s.listened = true → s.mark = true
  unregMark : s.unregPending > 0 → s.mark = true
  -- a live unmarked acceptor still has somebody who will close it: Shutdown has not begun, or its Range has
  -- not begun and will find the listener registered, or the Range is under way and has yet to visit it
  liveU : s.pc = .accepting → s.acc = .open → s.mark = false →
      (s.ctxDone = false ∨ (s.rangeStarted = false ∧ s.reg = true) ∨ (s.inRange = true ∧ s.visited = false ∧ s.rangeDone = false))
  -- a live marked one is owed an acceptor.Close by the Close call that marked it
  liveM : s.pc = .accepting → s.acc = .open → s.mark = true → s.closePending > 0
  accClosed : s.acc = .closed → (s.mark = true ∨ s.ctxDone = true)
  pendingMark : s.closePending > 0 → s.mark = true
  visitedMark : s.visited = true → s.mark = true
  unpubPending : s.pub = false → s.closePending = 0
  pcListened : s.pc ≠ .idle → s.listened = true
  regListened : s.reg = true → s.listened = true
  -- the acceptor as Sync sees it from each of its program points (and what Sync returns: always ErrServerClosed)
  atPc : match s.pc with
    | .idle | .checked => s.acc = .none ∧ s.pub = false
    | .created => s.acc = .open ∧ s.pub = false
    | .accepting => s.acc ≠ .none ∧ s.pub = true
    | .failed => s.acc = .closed ∧ s.pub = true
    | .returned b => s.acc ≠ .open ∧ b = true

theorem linv_init : LInv {} := by constructor <;> simp

theorem linv_step {s s' : LSt} {a : LAct} (h : LInv s) (hs : lstep s a = some s') : LInv s' := by
  -- `liveU` at `cancel` rests on `rangeCtx`, `notReg` and `pcListened` (an unmarked listener is still registered and the
  -- Range has not begun); `liveM` at `closeMark` on `atPc` (the acceptor is published, so this Close owes it a close)
  cases a <;> step_cases lstep hs <;> cases h <;> constructor <;> first | assumption | (simp; done) | grind

theorem linv_run {acts : List LAct} {s s' : LSt} (h : LInv s) (hr : lrun s acts = some s') : LInv s' :=
  run_invariant linv_step h hr

structure CInv (s : CSt) : Prop where
  swapCtx : s.swapped = true → s.ctxDone = true
  doneSwapped : s.closeAllDone = true → s.swapped = true
  oldSwapped : s.loc = .old → s.swapped = true
  closes : s.closes = if s.pc = .closed then 1 else 0
  fired : s.inactives + (if s.firePending then 1 else 0) = s.closes
  -- an open channel past `add` is in the map CloseAll will take, or in the one it took and has not finished with
  atPc : match s.pc with
    | .none | .accepted | .started => s.loc = .notIn
    | .activating | .loopTop | .reading => s.loc = .cur ∧ s.swapped = false ∨ s.loc = .old ∧ s.closeAllDone = false
    | .closed => True

theorem cinv_init : CInv {} := by constructor <;> simp

theorem cinv_step {s s' : CSt} {a : CAct} (h : CInv s) (hs : cstep s a = some s') : CInv s' := by
  -- `atPc` at `swap`: the channel goes from the current map to the old one, with which CloseAll has not finished
  -- (`doneSwapped`); at `closeAllEnd` the guard says that every channel of the old map is closed
  cases a <;> step_cases cstep hs <;> cases h <;> constructor <;> first | assumption | (simp; done) | grind

theorem cinv_run {acts : List CAct} {s s' : CSt} (h : CInv s) (hr : crun s acts = some s') : CInv s' :=
  run_invariant cinv_step h hr

theorem CInv.open_counts {s : CSt} (hi : CInv s) (hp : s.pc ≠ .closed) :
    s.closes = 0 ∧ s.inactives = 0 ∧ s.firePending = false := by
  have hc := hi.closes
  have hf := hi.fired
  rw [if_neg hp] at hc
  split at hf <;> simp_all

end NettyVerif.Boot
