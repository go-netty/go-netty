import NettyVerif.Proofs.Pipeline
/-! Refinement of the pointer-level pipeline operations to the handler-list specification. -/
namespace NettyVerif.Pipeline

/-- concrete pipe `p` with user contexts `addrs` (between head and tail) represents list `s` -/
structure Refines (p : Pipe) (addrs : List Nat) (s : Spec) : Prop where
  wf : WF p (headA :: addrs ++ [tailA])
  abs : addrs.map p.hdl = s
  hh : p.hdl headA = headH
  ht : p.hdl tailA = tailH

theorem refines_new : Refines newPipe [] [] :=
  ⟨by simpa using wf_new, rfl, by simp [newPipe, upd, headA, tailA], by simp [newPipe, tailA]⟩

theorem Refines.length {p addrs s} (hr : Refines p addrs s) : addrs.length = s.length := by
  rw [← hr.abs, List.length_map]

theorem Refines.size {p addrs s} (hr : Refines p addrs s) : p.size = s.length + 2 := by
  simp [hr.wf.size, hr.length]

/-- one insertion, anywhere: the contexts `as` before the new one (`c` the last of them, or the head)
    and `bs` after it; every building operation is an instance or an iteration of this -/
theorem insertAfter_refines {p : Pipe} {as bs : List Nat} {sa sb : Spec} {c : Nat} (h : Handler)
    (hr : Refines p (as ++ bs) (sa ++ sb)) (hl : as.length = sa.length)
    (hc : (headA :: as).getLast? = some c) :
    ∃ p', insertAfter (p, c) h = some (p', p.fresh) ∧ Refines p' (as ++ p.fresh :: bs) (sa ++ h :: sb) := by
  obtain ⟨wf, abs, hh, ht⟩ := hr
  have hn : ∀ {x}, x ∈ headA :: (as ++ bs) ++ [tailA] → x ≠ p.fresh := fun hx e => Nat.lt_irrefl _ (e ▸ wf.lt _ hx)
  obtain ⟨p', hi, wf', hhdl, -⟩ := insertAfter_wf (A := headA :: as) (B := bs ++ [tailA]) h (by simpa using wf) hc (by simp)
  obtain ⟨ha, hb⟩ := List.append_inj (by simpa using abs) (by simpa using hl)
  refine ⟨p', hi, by simpa using wf', ?_, ?_, ?_⟩
  · rw [hhdl, List.map_append, List.map_cons, upd_same, map_upd, map_upd, ha, hb] <;>
      exact fun hx => hn (by simp [hx]) rfl
  · rw [hhdl, upd_other (hn (by simp)), hh]
  · rw [hhdl, upd_other (hn (by simp)), ht]

theorem foldInsert_refines : ∀ (hs : List Handler) {p : Pipe} {as bs : List Nat} {sa sb : Spec} {c : Nat},
    Refines p (as ++ bs) (sa ++ sb) → as.length = sa.length → (headA :: as).getLast? = some c →
    ∃ st ns, foldOpt insertAfter (p, c) hs = some st ∧ Refines st.1 (as ++ ns ++ bs) (sa ++ hs ++ sb)
  | [], p, _, _, _, _, c, hr, _, _ => ⟨(p, c), [], rfl, by simpa using hr⟩
  | h :: hs, p, as, bs, sa, sb, c, hr, hl, hc => by
    obtain ⟨p1, hi, hr1⟩ := insertAfter_refines h hr hl hc
    obtain ⟨st, ns, hf, hr'⟩ := foldInsert_refines hs (as := as ++ [p.fresh]) (sa := sa ++ [h])
      (by simpa using hr1) (by simp [hl]) (List.getLast?_concat (l := headA :: as))
    exact ⟨st, p.fresh :: ns, by simp [foldOpt, hi, hf], by simpa using hr'⟩

theorem addFirst1_eq (p : Pipe) (h : Handler) :
    addFirst1 p h = (insertAfter (p, headA) h).map (·.1) := by
  simp only [addFirst1, insertAfter]
  cases p.next headA <;> rfl

theorem addFirst1_refines {p addrs s} (h : Handler) (hr : Refines p addrs s) :
    ∃ p', addFirst1 p h = some p' ∧ Refines p' (p.fresh :: addrs) (h :: s) := by
  obtain ⟨p', hi, hr'⟩ := insertAfter_refines (as := []) (sa := []) (c := headA) h hr rfl rfl
  exact ⟨p', by rw [addFirst1_eq, hi]; rfl, hr'⟩

theorem foldAddFirst_refines : ∀ (hs : List Handler) {p : Pipe} {addrs : List Nat} {s : Spec},
    Refines p addrs s → ∃ p' addrs', foldOpt addFirst1 p hs = some p' ∧ Refines p' addrs' (hs.reverse ++ s)
  | [], p, addrs, _, hr => ⟨p, addrs, rfl, by simpa using hr⟩
  | h :: hs, _, _, _, hr => by
    obtain ⟨p1, h1, hr1⟩ := addFirst1_refines h hr
    obtain ⟨p', addrs', hf, hr'⟩ := foldAddFirst_refines hs hr1
    exact ⟨p', addrs', by simp [foldOpt, h1, hf], by simpa using hr'⟩

/-- the code reads `tail.prev` where `insertAfter` reads `c.next`: the same under well-formedness -/
theorem addLast1_eq {p : Pipe} {A : List Nat} {c : Nat} (h : Handler) (wf : WF p (A ++ [tailA]))
    (hc : A.getLast? = some c) : addLast1 p h = (insertAfter (p, c) h).map (·.1) := by
  obtain ⟨hnext, hprev⟩ := wf.link hc rfl
  simp [addLast1, insertAfter, hnext, hprev, alloc]

theorem addLast1_refines {p addrs s} (h : Handler) (hr : Refines p addrs s) :
    ∃ p', addLast1 p h = some p' ∧ Refines p' (addrs ++ [p.fresh]) (s ++ [h]) := by
  obtain ⟨c, hc⟩ : ∃ c, (headA :: addrs).getLast? = some c := ⟨_, List.getLast?_cons⟩
  obtain ⟨p', hi, hr'⟩ := insertAfter_refines (bs := []) (sb := []) h (by simpa using hr) hr.length hc
  exact ⟨p', by rw [addLast1_eq h hr.wf hc, hi]; rfl, hr'⟩

theorem foldAddLast_refines : ∀ (hs : List Handler) {p : Pipe} {addrs : List Nat} {s : Spec},
    Refines p addrs s → ∃ p' addrs', foldOpt addLast1 p hs = some p' ∧ Refines p' addrs' (s ++ hs)
  | [], p, addrs, _, hr => ⟨p, addrs, rfl, by simpa using hr⟩
  | h :: hs, _, _, _, hr => by
    obtain ⟨p1, h1, hr1⟩ := addLast1_refines h hr
    obtain ⟨p', addrs', hf, hr'⟩ := foldAddLast_refines hs hr1
    exact ⟨p', addrs', by simp [foldOpt, h1, hf], by simpa using hr'⟩

theorem addFirst_refines {p addrs s} (hs : List Handler) (hr : Refines p addrs s) :
    match Spec.addFirst s hs with
    | none => addFirst p hs = .panic
    | some s' => ∃ p' addrs', addFirst p hs = .ok p' ∧ Refines p' addrs' s' := by
  unfold Spec.addFirst addFirst
  by_cases ha : admissible hs
  · obtain ⟨p', addrs', hf, hr'⟩ := foldAddFirst_refines hs hr
    simpa [ha, hf] using ⟨addrs', hr'⟩
  · simp [ha]

theorem addLast_refines {p addrs s} (hs : List Handler) (hr : Refines p addrs s) :
    match Spec.addLast s hs with
    | none => addLast p hs = .panic
    | some s' => ∃ p' addrs', addLast p hs = .ok p' ∧ Refines p' addrs' s' := by
  unfold Spec.addLast addLast
  by_cases ha : admissible hs
  · obtain ⟨p', addrs', hf, hr'⟩ := foldAddLast_refines hs hr
    simpa [ha, hf] using ⟨addrs', hr'⟩
  · simp [ha]

theorem walkNext_path {p : Pipe} : ∀ {L : List Nat} {a b : Nat} (k : Nat), Path p.next a L b →
    k < L.length → walkNext p k a = L[k]?
  | _, _, _, 0, hp, _ => by cases hp <;> rfl
  | _, _, _, k+1, .cons hn hp, hk => by
    simpa [walkNext, hn] using walkNext_path k hp (by simpa using hk)

theorem addHandler_refines {p addrs s} (pos : Int) (hs : List Handler) (hr : Refines p addrs s) :
    match Spec.addHandler s pos hs with
    | none => addHandler p pos hs = .panic
    | some s' => ∃ p' addrs', addHandler p pos hs = .ok p' ∧ Refines p' addrs' s' := by
  have hsize := hr.size
  have hlen := hr.length
  -- the code's tests on `p.size` are the specification's on `s.length + 2`
  have e1 : (p.size : Int) = (s.length : Int) + 2 := by omega
  have e2 : (s.length : Int) + 2 - 1 = (s.length : Int) + 1 := by omega
  simp only [Spec.addHandler, addHandler, e1, e2]
  cases ha : admissible hs; · simp
  by_cases h1 : pos ≥ (s.length : Int) + 2; · simp [h1]
  by_cases h2 : pos = -1 ∨ pos = (s.length : Int) + 1
  · simpa [ha, h1, h2, Spec.addLast] using addLast_refines hs hr
  simp only [h1, h2, Bool.not_true, Bool.false_eq_true, ite_false]
  have hk : pos.toNat ≤ addrs.length := by omega
  generalize pos.toNat = k at hk ⊢
  -- the loop stops at `c`, the last of the first `k` contexts (the head for `k = 0`)
  obtain ⟨c, hc⟩ : ∃ c, (headA :: addrs.take k).getLast? = some c := ⟨_, List.getLast?_cons⟩
  have hw : walkNext p k headA = some c := by
    have hL : headA :: addrs ++ [tailA] = (headA :: addrs.take k) ++ (addrs.drop k ++ [tailA]) := by
      simp [← List.append_assoc]
    rw [walkNext_path k hr.wf.fwd (by simp; omega), ← hc, hL, List.getLast?_eq_getElem?,
      List.getElem?_append_left] <;> simp [Nat.min_eq_left hk]
  obtain ⟨st, ns, hf, hr'⟩ := foldInsert_refines hs (as := addrs.take k) (bs := addrs.drop k)
    (sa := s.take k) (sb := s.drop k) (by simpa using hr) (by simp [hlen]) hc
  simp only [hw, hf]
  exact ⟨st.1, _, rfl, hr'⟩

theorem indexOfFrom_path {p : Pipe} (pred : Handler → Bool) : ∀ {L : List Nat} {a b : Nat} (fuel i : Nat),
    Path p.next a L b → p.next b = none → L.length ≤ fuel →
    indexOfFrom p pred fuel a i =
      match (L.map p.hdl).findIdx? pred with | some j => ((i + j : Nat) : Int) | none => -1
  | _, _, _, 0, _, hp, _, hf => by cases hp <;> simp at hf
  | _, a, _, fuel+1, i, .single _, hb, _ => by
    cases h : pred (p.hdl a) <;> simp [indexOfFrom, List.findIdx?_cons, hb, h]
  | _, a, _, fuel+1, i, .cons (xs := xs) hn hp, hb, hf => by
    have ih := indexOfFrom_path pred fuel (i+1) hp hb (by simpa using hf)
    cases h : pred (p.hdl a) <;> simp [indexOfFrom, List.findIdx?_cons, h, hn, ih]
    cases List.findIdx? (pred ∘ p.hdl) xs <;> simp [Int.add_assoc, Int.add_comm 1]

theorem lastIndexOfFrom_path {p : Pipe} (pred : Handler → Bool) : ∀ {L : List Nat} {a b : Nat} (fuel : Nat) (i : Int),
    Path p.prev a L b → p.prev b = none → L.length ≤ fuel →
    lastIndexOfFrom p pred fuel a i =
      match (L.map p.hdl).findIdx? pred with | some j => i - (j : Int) | none => -1
  | _, _, _, 0, _, hp, _, hf => by cases hp <;> simp at hf
  | _, a, _, fuel+1, i, .single _, hb, _ => by
    cases h : pred (p.hdl a) <;> simp [lastIndexOfFrom, List.findIdx?_cons, hb, h]
  | _, a, _, fuel+1, i, .cons (xs := xs) hn hp, hb, hf => by
    have ih := lastIndexOfFrom_path pred fuel (i-1) hp hb (by simpa using hf)
    cases h : pred (p.hdl a) <;> simp [lastIndexOfFrom, List.findIdx?_cons, h, hn, ih]
    cases List.findIdx? (pred ∘ p.hdl) xs <;> simp [Int.sub_sub, Int.add_comm 1]

theorem Refines.all {p addrs s} (hr : Refines p addrs s) :
    (headA :: addrs ++ [tailA]).map p.hdl = s.all := by
  simp [Spec.all, hr.abs, hr.hh, hr.ht]

theorem indexOf_refines {p addrs s} (hr : Refines p addrs s) (pred : Handler → Bool) :
    indexOf p pred = s.indexOf pred := by
  unfold indexOf Spec.indexOf
  rw [indexOfFrom_path pred (p.fresh + 1) 0 hr.wf.fwd hr.wf.tailNext (Nat.le_succ_of_le hr.wf.lenLe), hr.all]
  cases s.all.findIdx? pred <;> simp

theorem lastIndexOf_refines {p addrs s} (hr : Refines p addrs s) (pred : Handler → Bool) :
    lastIndexOf p pred = s.lastIndexOf pred := by
  unfold lastIndexOf Spec.lastIndexOf
  rw [lastIndexOfFrom_path pred (p.fresh + 1) _ hr.wf.bwd hr.wf.headPrev
    (by simpa using Nat.le_succ_of_le hr.wf.lenLe), List.map_reverse, hr.all, hr.size]
  cases s.all.reverse.findIdx? pred <;> simp [Spec.all]; omega

theorem contextAt_refines {p addrs s} (hr : Refines p addrs s) (pos : Int) :
    (pos = -1 ∨ pos ≥ (s.length : Int) + 2 → contextAt p pos = .ok none) ∧
    (¬ (pos = -1 ∨ pos ≥ (s.length : Int) + 2) →
      ∃ a, contextAt p pos = .ok (some a) ∧ (headA :: addrs ++ [tailA])[pos.toNat]? = some a ∧
        s.all[pos.toNat]? = some (p.hdl a)) := by
  have hsize := hr.size
  refine ⟨fun h => ?_, fun h => ?_⟩
  · simp [contextAt, show pos = -1 ∨ pos ≥ (p.size : Int) by omega]
  · have hk : pos.toNat < (headA :: addrs ++ [tailA]).length := by rw [← hr.wf.size]; omega
    refine ⟨_, ?_, List.getElem?_eq_getElem hk, ?_⟩
    · simp only [contextAt, show ¬ (pos = -1 ∨ pos ≥ (p.size : Int)) by omega, ite_false,
        walkNext_path _ hr.wf.fwd hk, List.getElem?_eq_getElem hk]
    · rw [← hr.all, List.getElem?_map, List.getElem?_eq_getElem hk]; rfl

/-- list-level routing over the contexts that follow the starting context in travel direction -/
def deliverL (p : Pipe) (k : Kind) : List Nat → List Nat × Final
  | [] => ([], .dropped)
  | b :: rest =>
    if (p.hdl b).implements k then
      if b = headA then ([b], .chanWrite)
      else if b = tailA then ([b], .close)
      else if (p.hdl b).forwards k then ((b :: (deliverL p k rest).1), (deliverL p k rest).2)
      else ([b], .stopped)
    else deliverL p k rest

theorem deliverL_skip (p : Pipe) (k : Kind) : ∀ (pre : List Nat) {rest : List Nat},
    (∀ x ∈ pre, (p.hdl x).implements k = false) → deliverL p k (pre ++ rest) = deliverL p k rest
  | [], _, _ => rfl
  | x :: pre, _, h => by
    simpa [deliverL, h x] using deliverL_skip p k pre fun y hy => h y (by simp [hy])

theorem findImpl_path (p : Pipe) (dir : Pipe → Nat → Option Nat) (k : Kind) :
    ∀ {rest : List Nat} {a e : Nat} (fuel : Nat), Path (dir p) a (a :: rest) e → dir p e = none → rest.length < fuel →
    findImpl p dir k fuel a = rest.find? fun x => (p.hdl x).implements k
  | _, _, _, fuel+1, .single _, he, _ => by simp [findImpl, he]
  | x :: rest, _, _, fuel+1, .cons hn hp, he, hf => by
    cases hp.head_eq
    have ih := findImpl_path p dir k fuel hp he (by simpa using hf)
    cases h : (p.hdl x).implements k <;> simp [findImpl, hn, h, ih]

/-- **routing, pointer level = list level**: delivering from context `a` invokes exactly what the
    list-level scan over the contexts after `a` (in travel direction) says; `fuel` is that of the recursion
    from handler to handler, `p.fresh + 1` the fuel `deliver` gives each inner `findImpl` loop -/
theorem deliver_eq (p : Pipe) (k : Kind) : ∀ (fuel : Nat) {rest : List Nat} {a e : Nat},
    Path (dirOf k p) a (a :: rest) e → dirOf k p e = none → rest.length < fuel → rest.length < p.fresh + 1 →
    deliver p k fuel a = deliverL p k rest
  | 0, _, _, _, _, _, hf, _ => by simp at hf
  | fuel+1, rest, a, e, hp, he, hf, hfr => by
    rw [deliver, findImpl_path p (dirOf k) k _ hp he hfr]
    cases hfind : rest.find? fun x => (p.hdl x).implements k with
    | none =>
      simpa [deliverL] using (deliverL_skip p k rest (rest := []) (by simpa using hfind)).symm
    | some b =>
      obtain ⟨hb, pre, post, rfl, hpre⟩ := List.find?_eq_some_iff_append.1 hfind
      simp only [List.length_append, List.length_cons] at hf hfr
      have ih := deliver_eq p k fuel (hp.split (xs := a :: pre)).2 he (by omega) (by omega)
      rw [deliverL_skip p k pre (by simpa using hpre)]
      simp [deliverL, hb, ih]

/-- in a well-formed list the head is at position 0 only and the tail at the last position only: the
    address tests of `deliverL` are the position tests of the specification -/
theorem WF.getElem_eq_head {p L i} (wf : WF p L) (hi : i < L.length) : L[i] = headA ↔ i = 0 := by
  have h0 : L[0]'(by omega) = headA := by
    have := wf.fwd.head?; rw [List.head?_eq_getElem?, List.getElem?_eq_getElem (by omega)] at this
    exact Option.some.inj this
  rw [← h0, List.getElem_inj wf.nodup]

theorem WF.getElem_eq_tail {p L i} (wf : WF p L) (hi : i < L.length) : L[i] = tailA ↔ i = L.length - 1 := by
  have h0 : L[L.length - 1]'(by omega) = tailA := by
    have := wf.fwd.getLast?; rw [List.getLast?_eq_getElem?, List.getElem?_eq_getElem (by omega)] at this
    exact Option.some.inj this
  rw [← h0, List.getElem_inj wf.nodup]

theorem deliverL_up {p : Pipe} {L : List Nat} (wf : WF p L) (k : Kind) :
    ∀ (as : List Nat) (i : Nat), L.drop i = as →
      deliverL p k as = (((Spec.deliverUp k (L.length - 1) i (as.map p.hdl)).1.map (fun j => L.getD j 0)),
        (Spec.deliverUp k (L.length - 1) i (as.map p.hdl)).2)
  | [], i, _ => by simp [deliverL, Spec.deliverUp]
  | a :: rest, i, h => by
    have hi : i < L.length := by
      refine Nat.lt_of_not_le fun h' => ?_
      rw [List.drop_eq_nil_of_le h'] at h; simp at h
    rw [List.drop_eq_getElem_cons hi] at h
    injection h with ha hr
    subst ha
    have ih := deliverL_up wf k rest (i+1) hr
    simp only [deliverL, List.map_cons, Spec.deliverUp, wf.getElem_eq_head hi, wf.getElem_eq_tail hi, ih]
    repeat' split
    all_goals simp [hi]

theorem deliverL_down {p : Pipe} {L : List Nat} (wf : WF p L) (k : Kind) :
    ∀ (as : List Nat) (n : Nat), n ≤ L.length → (L.take n).reverse = as →
      deliverL p k as = (((Spec.deliverDown k (L.length - 1) n (as.map p.hdl)).1.map (fun j => L.getD j 0)),
        (Spec.deliverDown k (L.length - 1) n (as.map p.hdl)).2)
  | [], n, _, _ => by simp [deliverL, Spec.deliverDown]
  | a :: rest, 0, _, h => by simp at h
  | a :: rest, n+1, hn, h => by
    rw [List.take_add_one, List.getElem?_eq_getElem hn] at h
    simp only [Option.toList_some, List.reverse_append, List.reverse_cons, List.reverse_nil, List.nil_append,
      List.singleton_append] at h
    injection h with ha hr
    subst ha
    have ih := deliverL_down wf k rest n (by omega) hr
    simp only [deliverL, List.map_cons, Spec.deliverDown, wf.getElem_eq_head hn, wf.getElem_eq_tail hn, ih,
      Nat.add_sub_cancel]
    repeat' split
    all_goals simp [Nat.lt_of_succ_le hn]

theorem dirOf_write (p : Pipe) : dirOf .write p = p.prev := by funext a; simp [dirOf]
theorem dirOf_ne (p : Pipe) (k : Kind) (h : k ≠ .write) : dirOf k p = p.next := by funext a; simp [dirOf, h]

/-- **routing refinement**: delivering an event of kind `k` from the context at position `i`
    (pointer walk with the per-interface loops of context.go) invokes exactly the contexts at the
    positions the handler-list specification computes, in that order, and ends the same way.
    Positions are turned into addresses by `L.getD j 0`, whose default is never reached. -/
theorem route_refines {p : Pipe} {addrs : List Nat} {s : Spec} (hr : Refines p addrs s) (k : Kind) (i : Nat)
    (hi : i < s.length + 2) :
    deliver p k (p.fresh + 1) ((headA :: addrs ++ [tailA]).getD i 0) =
      ((s.deliver k i).1.map (fun j => (headA :: addrs ++ [tailA]).getD j 0), (s.deliver k i).2) := by
  have hall := hr.all
  have wf := hr.wf
  have hlen : s.length + 1 = (headA :: addrs ++ [tailA]).length - 1 := by rw [← wf.size, hr.size]; rfl
  generalize headA :: addrs ++ [tailA] = L at hall wf hlen ⊢
  have hiL : i < L.length := by omega
  -- `L` is split at position `i`, and `Path.split` gives the path from there on (for a write along `prev`, over the
  -- reversed prefix); `deliver_eq` takes the pointer walk to `deliverL`, `deliverL_up` / `deliverL_down` that to the specification
  have hsplit : L = L.take i ++ L[i] :: L.drop (i+1) := by simp
  have hfuel := wf.lenLe
  rw [List.getD, List.getElem?_eq_getElem hiL, Option.getD_some, Spec.deliver, ← hall, hlen]
  by_cases hk : k = .write
  · subst hk
    have hb := wf.bwd
    rw [hsplit, List.reverse_append, List.reverse_cons, List.append_assoc, List.singleton_append, ← dirOf_write] at hb
    rw [deliver_eq p .write _ hb.split.2 (by rw [dirOf_write]; exact wf.headPrev)
        (by simp [List.length_take]; omega) (by simp [List.length_take]; omega),
      deliverL_down wf .write _ i (by omega) rfl]
    simp
  · have hf := wf.fwd
    rw [hsplit, ← dirOf_ne p k hk] at hf
    rw [deliver_eq p k _ hf.split.2 (by rw [dirOf_ne p k hk]; exact wf.tailNext)
        (by simp; omega) (by simp; omega), deliverL_up wf k _ (i+1) rfl]
    simp [hk]

end NettyVerif.Pipeline
