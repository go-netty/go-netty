import NettyVerif.Proofs.LengthField
import NettyVerif.Gen.Guards
/-!
Meaning of the extracted integer skeleton of the frame codecs (`Gen/Guards.lean`, regenerated from
codec/frame/*.go on every run) in terms of the guards of the hand model (`Model/Frame.lean`).

Two steps per function, both taken in `Props/C04.lean` and `Props/C08.lean`: (1) the generated statement list
equals the expectation written here (decided by the kernel); (2) running the expectation under Go's 64-bit
semantics (`Guards.run`) raises exactly when the model raises and computes the frame length the model computes
(for every configuration and every input value). This file has the expectations and, as a `simp` set, one
equation of `run` per kind of statement.
-/
namespace NettyVerif.Guards
open NettyVerif.Frame

/-- the range of an int64, as `Frame.wrap64_id` asks for it -/
def I64 (x : Int) : Prop := -(2^63) ≤ x ∧ x < 2^63

@[simp] theorem b2i_ne_zero (b : Bool) : (b2i b ≠ 0) = (b = true) := by cases b <;> simp [b2i]
@[simp] theorem b2i_eq_zero (b : Bool) : (b2i b = 0) = (b = false) := by cases b <;> simp [b2i]

@[simp] theorem binOp_add (a b : Int) : binOp "+" a b = wrap64 (a + b) := by simp [binOp]
@[simp] theorem binOp_sub (a b : Int) : binOp "-" a b = wrap64 (a - b) := by simp [binOp]
@[simp] theorem binOp_lt (a b : Int) : binOp "<" a b = b2i (a < b) := by simp [binOp]
@[simp] theorem binOp_gt (a b : Int) : binOp ">" a b = b2i (a > b) := by simp [binOp]
@[simp] theorem binOp_le (a b : Int) : binOp "<=" a b = b2i (a ≤ b) := by simp [binOp]
@[simp] theorem binOp_ge (a b : Int) : binOp ">=" a b = b2i (a ≥ b) := by simp [binOp]
@[simp] theorem binOp_eq (a b : Int) : binOp "==" a b = b2i (a = b) := by simp [binOp]
@[simp] theorem binOp_ne (a b : Int) : binOp "!=" a b = b2i (a ≠ b) := by simp [binOp]
@[simp] theorem binOp_and (a b : Int) : binOp "&&" a b = b2i (a ≠ 0 ∧ b ≠ 0) := by simp [binOp]
@[simp] theorem binOp_or (a b : Int) : binOp "||" a b = b2i (a ≠ 0 ∨ b ≠ 0) := by simp [binOp]
@[simp] theorem convTo_int64 (v : Int) : convTo "int64" v = wrap64 v := by simp [convTo]
@[simp] theorem convTo_int (v : Int) : convTo "int" v = wrap64 v := by simp [convTo]
@[simp] theorem convTo_uint64 (v : Int) : convTo "uint64" v = v % (2^64 : Int) := by simp [convTo]

attribute [simp] GE.eval

@[simp] theorem set_var (env : Env) (x y : String) (v : Int) :
    (env.set x v).var y = if y = x then v else env.var y := rfl
@[simp] theorem set_len (env : Env) (x : String) (v : Int) : (env.set x v).len = env.len := rfl
@[simp] theorem set_opq (env : Env) (x : String) (v : Int) : (env.set x v).opq = env.opq := rfl

@[simp] theorem run_nil (env : Env) : run [] env = some env := rfl

@[simp] theorem run_assign (g : GE) (x op : String) (e : GE) (rest : List GS) (env : Env) :
    run (.assign g x op e :: rest) env =
      if g.eval env = 0 then run rest env else
      run rest (env.set x (if op = "+=" then wrap64 (env.var x + e.eval env)
                           else if op = "-=" then wrap64 (env.var x - e.eval env) else e.eval env)) := by
  by_cases h : g.eval env = 0 <;> simp [run, GS.step, h]

@[simp] theorem run_assert (g c : GE) (rest : List GS) (env : Env) :
    run (.assert g c :: rest) env = if g.eval env ≠ 0 ∧ c.eval env ≠ 0 then none else run rest env := by
  by_cases h : (g.eval env ≠ 0 ∧ c.eval env ≠ 0) <;> simp [run, GS.step, h]

@[simp] theorem run_check (g : GE) (x : String) (rest : List GS) (env : Env) :
    run (.check g x :: rest) env = if g.eval env ≠ 0 ∧ env.opq x ≠ 0 then none else run rest env := by
  by_cases h : (g.eval env ≠ 0 ∧ env.opq x ≠ 0) <;> simp [run, GS.step, h]

@[simp] theorem run_other (g : GE) (src : String) (rest : List GS) (env : Env) :
    run (.other g src :: rest) env = run rest env := by
  simp [run, GS.step]

/-- with it `simp` turns a chain of guards into "none fires" -/
@[simp] theorem isSome_ite_none {α} (p : Prop) [Decidable p] (x : Option α) :
    (if p then none else x).isSome = (!decide p && x.isSome) := by split <;> simp [*]

/-- the statements that have a meaning here (everything but `.other`) -/
def guardsOf (l : List GS) : List GS :=
  l.filter (fun s => match s with | .other _ _ => false | _ => true)

theorem run_guardsOf (l : List GS) (env : Env) : run l env = run (guardsOf l) env := by
  induction l generalizing env with
  | nil => rfl
  | cons s ss ih =>
    unfold guardsOf at ih ⊢
    cases s <;> simp only [List.filter_cons, run, GS.step, ih, ite_true, Bool.false_eq_true, ite_false]

/-- lists with the same guards run alike: the expectations below are compared with the generated lists through this -/
theorem run_congr (l l' : List GS) (h : guardsOf l = guardsOf l') (env : Env) : run l env = run l' env := by
  rw [run_guardsOf l, h, ← run_guardsOf]

/-- the environment of a length-field codec: parameters / receiver fields by name -/
def LFEnv (c : LFCfg) (env : Env) : Prop :=
  env.var "maxFrameLength" = c.max ∧ env.var "lengthFieldOffset" = c.offset ∧
  env.var "lengthFieldLength" = c.fieldLen ∧ env.var "lengthAdjustment" = c.adj ∧
  env.var "initialBytesToStrip" = c.strip

def expLengthFieldCodec : List GS := [
  .assert (.lit 1) (.bin "<=" (.var "maxFrameLength") (.lit 0)),
  .assert (.lit 1) (.bin "<" (.var "lengthFieldOffset") (.lit 0)),
  .assert (.lit 1) (.bin "<" (.var "initialBytesToStrip") (.lit 0)),
  .assert (.lit 1) (.bin "&&" (.bin "&&" (.bin "&&" (.bin "!=" (.var "lengthFieldLength") (.lit 1)) (.bin "!=" (.var "lengthFieldLength") (.lit 2))) (.bin "!=" (.var "lengthFieldLength") (.lit 4))) (.bin "!=" (.var "lengthFieldLength") (.lit 8))),
  .assert (.lit 1) (.bin ">" (.var "lengthFieldOffset") (.bin "-" (.var "maxFrameLength") (.var "lengthFieldLength")))]

def expPackFieldLength : List GS := [
  .assert (.lit 1) (.bin "<" (.var "dataLen") (.lit 0)),
  .assign (.lit 1) "lengthBuff" "=" (.opaque "make([]byte, fieldLen)"),
  .assert (.bin "==" (.var "fieldLen") (.lit 1)) (.bin ">" (.var "dataLen") (.lit 255)),
  .other (.bin "==" (.var "fieldLen") (.lit 1)) "lengthBuff[0] = byte(dataLen)",
  .assert (.bin "==" (.var "fieldLen") (.lit 2)) (.bin ">" (.var "dataLen") (.lit 65535)),
  .other (.bin "==" (.var "fieldLen") (.lit 2)) "byteOrder.PutUint16(lengthBuff, uint16(dataLen))",
  .assert (.bin "==" (.var "fieldLen") (.lit 4)) (.bin ">" (.var "dataLen") (.lit 4294967295)),
  .other (.bin "==" (.var "fieldLen") (.lit 4)) "byteOrder.PutUint32(lengthBuff, uint32(dataLen))",
  .other (.bin "==" (.var "fieldLen") (.lit 8)) "byteOrder.PutUint64(lengthBuff, uint64(dataLen))",
  .check (.opaque "default") "fmt.Errorf(\"should not reach here\")",
  .other (.lit 1) "return lengthBuff"]

def expPrepHandleWrite : List GS := [
  .assign (.lit 1) "bodyBytes" "=" (.opaque "utils.MustToBytes(message)"),
  .assign (.lit 1) "length" "=" (.bin "+" (.len "bodyBytes") (.var "lengthAdjustment")),
  .assign (.var "lengthIncludesLengthFieldLength") "length" "+=" (.var "lengthFieldLength"),
  .assign (.lit 1) "lengthBuff" "=" (.opaque "packFieldLength(l.byteOrder, l.lengthFieldLength, int64(length))"),
  .other (.lit 1) "ctx.HandleWrite([][]byte{lengthBuff, bodyBytes})"]

def expVarintHandleRead : List GS := [
  .assign (.lit 1) "reader" "=" (.opaque "utils.MustToReader(message)"),
  .other (.lit 1) "frameLength, err := binary.ReadUvarint(utils.NewByteReader(reader))",
  .check (.lit 1) "err",
  .assert (.lit 1) (.bin ">" (.var "frameLength") (.conv "uint64" (.var "maxFrameLength"))),
  .other (.lit 1) "ctx.HandleRead(utils.ExactReader(reader, int64(frameLength)))"]

def expVarintHandleWrite : List GS := [
  .assign (.lit 1) "bodyBytes" "=" (.opaque "utils.MustToBytes(message)"),
  .assert (.lit 1) (.bin ">" (.len "bodyBytes") (.var "maxFrameLength")),
  .assign (.lit 1) "head" "=" (.opaque "[binary.MaxVarintLen64]byte{}"),
  .assign (.lit 1) "n" "=" (.opaque "binary.PutUvarint(head[:], uint64(len(bodyBytes)))"),
  .other (.lit 1) "ctx.HandleWrite([][]byte{ head[:n], bodyBytes, })"]

def expPositive (name : String) : List GS := [.assert (.lit 1) (.bin "<=" (.var name) (.lit 0))]

def expDelimiterCodec : List GS := [
  .assert (.lit 1) (.bin "<=" (.var "maxFrameLength") (.lit 0)),
  .assert (.lit 1) (.bin "<=" (.len "delimiter") (.lit 0))]

/-- the opaque call as the extractor spells it (the comparison with the generated list is textual) -/
def unpackCall : String := "unpackFieldLength(l.byteOrder, l.lengthFieldLength, lengthFieldBuff)"

/-- `lengthFieldCodec.HandleRead` up to the last guard on the frame length -/
def expLFReadGuards : List GS := [
  .assign (.lit 1) "reader" "=" (.opaque "utils.MustToReader(message)"),
  .assign (.lit 1) "lengthFieldEndOffset" "=" (.bin "+" (.var "lengthFieldOffset") (.var "lengthFieldLength")),
  .assign (.lit 1) "headerBuffer" "=" (.opaque "make([]byte, lengthFieldEndOffset)"),
  .other (.lit 1) "n, err := io.ReadFull(reader, headerBuffer)",
  .assert (.lit 1) (.bin "||" (.bin "!=" (.var "n") (.len "headerBuffer")) (.bin "!=" (.var "nil") (.var "err"))),
  .assign (.lit 1) "lengthFieldBuff" "=" (.opaque "headerBuffer[l.lengthFieldOffset:lengthFieldEndOffset]"),
  .assign (.lit 1) "frameLength" "=" (.opaque unpackCall),
  .assert (.lit 1) (.bin "<" (.var "frameLength") (.lit 0)),
  .assign (.lit 1) "frameLength" "+=" (.conv "int64" (.bin "+" (.var "lengthAdjustment") (.var "lengthFieldEndOffset"))),
  .assert (.lit 1) (.bin "<" (.var "frameLength") (.conv "int64" (.var "lengthFieldEndOffset"))),
  .assert (.lit 1) (.bin ">" (.var "frameLength") (.conv "int64" (.var "maxFrameLength"))),
  .assert (.lit 1) (.bin ">" (.conv "int64" (.var "initialBytesToStrip")) (.var "frameLength"))]

/-- what follows the guards: the frame reader, the strip, the hand-over (no guard on the length) -/
def expLFReadRest : List GS := [
  .assign (.lit 1) "frameReader" "=" (.opaque "io.MultiReader( bytes.NewReader(headerBuffer), utils.ExactReader(reader, frameLength-int64(lengthFieldEndOffset)), )"),
  .other (.bin ">" (.var "initialBytesToStrip") (.lit 0)) "n, err := io.CopyN(ioutil.Discard, frameReader, int64(l.initialBytesToStrip))",
  .assert (.bin ">" (.var "initialBytesToStrip") (.lit 0)) (.bin "||" (.bin "!=" (.var "nil") (.var "err")) (.bin "!=" (.conv "int64" (.var "initialBytesToStrip")) (.var "n"))),
  .other (.lit 1) "ctx.HandleRead(frameReader)"]

/-- `utils.exactReader.Read`, the frame body every length-based decoder hands out -/
def expExactRead : List GS := [
  .other (.bin "<=" (.var "e.n") (.lit 0)) "return 0, io.EOF",
  .assign (.bin ">" (.conv "int64" (.len "p")) (.var "e.n")) "p" "=" (.opaque "p[0:e.n]"),
  .other (.lit 1) "n, err = e.r.Read(p)",
  .assign (.lit 1) "e.n" "-=" (.conv "int64" (.var "n")),
  .assign (.bin "&&" (.bin "==" (.var "err") (.opaque "io.EOF")) (.bin ">" (.var "e.n") (.lit 0))) "err" "=" (.opaque "io.ErrUnexpectedEOF"),
  .other (.lit 1) "return"]

end NettyVerif.Guards
