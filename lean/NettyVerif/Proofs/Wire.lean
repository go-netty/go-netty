import NettyVerif.Model.Wire
import NettyVerif.Base.Run
/-! Invariant of the message-lock discipline: the wire is a sequence of whole messages followed by
    a prefix of the message of the current lock holder. -/
namespace NettyVerif.Wire
variable {α : Type}

theorem tagged_append (a b : List (Msg α)) : tagged (a ++ b) = tagged a ++ tagged b := by
  simp [tagged, List.flatMap_append]

theorem tagged_single (m : Msg α) : tagged [m] = m.chunks.map (fun c => (m.id, c)) := by
  simp [tagged]

theorem wireBytes_append (a b : List (Nat × List α)) : wireBytes (a ++ b) = wireBytes a ++ wireBytes b := by
  simp [wireBytes]

theorem wireBytes_map_tag (id : Nat) (cs : List (List α)) : wireBytes (cs.map (fun c => (id, c))) = cs.flatten := by
  simp [wireBytes, List.map_map, Function.comp_def]

theorem wireBytes_tagged (ms : List (Msg α)) : wireBytes (tagged ms) = (ms.map Msg.bytes).flatten := by
  simp [wireBytes, tagged, List.flatMap_def, List.map_map, Function.comp_def, List.flatten_flatten]; rfl

structure Inv (s : St α) : Prop where
  lock : s.useLock = true
  -- the wire as whoever is inside the head handler sees it (`[]`: nobody is)
  atCur : match s.cur with
    | [] => s.holder = none ∧ s.wire = tagged s.order
    | [(t, m, rest)] => s.holder = some t ∧ ∃ pre sent, s.order = pre ++ [m] ∧ m.chunks = sent ++ rest ∧
        s.wire = tagged pre ++ sent.map (fun c => (m.id, c))
    | _ => False

theorem inv_init : Inv ({} : St α) := ⟨rfl, rfl, rfl⟩

theorem find_single {β : Type} {x y : Nat × β} {t : Nat} (h : [x].find? (·.1 == t) = some y) :
    y = x ∧ x.1 = t := by
  by_cases hx : x.1 = t <;> simp [hx] at h
  exact ⟨h.symm, hx⟩

theorem inv_step {s s' : St α} {a : Act α} (h : Inv s) (hs : step s a = some s') : Inv s' := by
  obtain ⟨hl, hat⟩ := h
  split at hat
  · -- nobody inside: only `start` is enabled
    rename_i hc
    cases a <;> simp [step, hc, hl, hat.1] at hs
    subst hs
    exact ⟨rfl, rfl, s.order, [], rfl, rfl, by simp [hat.2]⟩
  · rename_i t' m rest hc
    obtain ⟨hh, pre, sent, ho, hm, hw⟩ := hat
    cases a with
    | start => simp [step, hc, hl, hh] at hs
    | chunk =>
      simp only [step, hc] at hs
      split at hs <;> cases hs
      rename_i c rest' hfind
      obtain ⟨h1, rfl⟩ := find_single hfind; cases h1
      refine ⟨hl, ?_⟩
      simp only [List.map, beq_self_eq_true, if_true]
      exact ⟨hh, pre, sent ++ [c], ho, by simp [hm], by simp [hw]⟩
    | finish =>
      simp only [step, hc] at hs
      split at hs <;> cases hs
      rename_i hfind
      obtain ⟨h1, rfl⟩ := find_single hfind; cases h1
      exact ⟨hl, by simp [hl, ho, hw, hm, tagged_append, tagged_single]⟩
  · exact hat.elim

theorem inv_run {acts : List (Act α)} {s s' : St α} (h : Inv s) (hr : run s acts = some s') : Inv s' :=
  run_invariant inv_step h hr

end NettyVerif.Wire
