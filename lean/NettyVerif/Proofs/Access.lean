import NettyVerif.Model.Access
import NettyVerif.Proofs.HB
/-! A table of access sites that passes the policy check makes every trace built from instances of
    its sites conform to the induced protection policy. -/
namespace NettyVerif.Access
open NettyVerif.HB

/-- verbatim the `ss` that `classify` computes, so that the facts about `ss` which `unfold classify` leaves fit -/
def sitesOf (obj field : String) (sites : List Site) : List Site :=
  sites.filter (fun s => s.obj == obj && s.field == field && !s.ctor)

/-- what a verdict promises of the sites (after construction) of its field -/
def Verdict.Sound (P : Policy) (o f : String) (ss : List Site) : Verdict → Prop
  | .immutable => ∀ s ∈ ss, s.kind.isRead = true
  | .atomic => ∀ s ∈ ss, s.kind = .atomic
  | .guarded m => ∀ s ∈ ss, guardOK m s = true
  | .owned _ => ∀ s ∈ ss, s.kind.isRead = true ∨ s.kind = .write
  | .excluded => P.excluded.contains (o, f) = true
  | .unprotected => True

theorem classify_sound (P : Policy) (o f : String) (T : List Site) :
    (classify P o f T).Sound P o f (sitesOf o f T) := by
  unfold classify
  simp only
  -- the decision tree of `classify`, branch by branch; each test that passes is the verdict's promise
  split
  · assumption                                                    -- excluded
  split
  · exact List.all_eq_true.1 ‹_›                                  -- immutable
  split
  · exact fun s hs => beq_iff_eq.1 (List.all_eq_true.1 ‹_› s hs)  -- atomic
  split
  · split                                                         -- a field the policy gives to a token
    · intro s hs                                                  -- owned
      have := List.all_eq_true.1 ‹_› s hs
      simp only [Bool.and_eq_true, Bool.or_eq_true, beq_iff_eq] at this
      exact this.2
    · trivial
  split
  · rename_i hnil; intro s hs; rw [sitesOf, hnil] at hs; cases hs  -- no site after construction: immutable
  split
  · rename_i hfind; have := List.find?_some hfind; exact List.all_eq_true.1 this   -- guarded by a lock of the first site
  · trivial

/-- the locations the table speaks for: their field has a discipline and is not excluded by the property -/
def Covered (P : Policy) (T : List Site) (W : World) (x : Nat) : Prop :=
  classify P (W.fieldOf x).1 (W.fieldOf x).2 T ≠ .unprotected ∧ classify P (W.fieldOf x).1 (W.fieldOf x).2 T ≠ .excluded

theorem InstanceOf.kind {W : World} {tr : Trace} {i : Nat} {e : Ev} {x : Nat} {w a : Bool} {s : Site}
    (h : InstanceOf W tr i e x w a s) :
    (s.kind.isRead = true → w = false ∧ a = false) ∧ (s.kind = .write → w = true ∧ a = false) ∧
    (s.kind = .atomic → a = true) := by
  have := h.2.2.1
  cases hk : s.kind <;> simp [hk, Kind.isRead] at this ⊢ <;> exact this

theorem guardOK_cases {m : String} {s : Site} (h : guardOK m s = true) :
    (s.kind = .write ∧ s.excl.contains m = true) ∨
    (s.kind.isRead = true ∧ (s.excl.contains m = true ∨ s.shared.contains m = true)) := by
  unfold guardOK at h
  cases hk : s.kind <;> simp [hk, Kind.isRead] at h ⊢ <;> exact h

/-- if every access event is an execution of some site of the table, and the functions that the
    policy allows to touch token-owned fields run only while their goroutine owns the token, then
    the trace conforms to the policy induced by the table -/
theorem table_conforms (P : Policy) (T : List Site) (W : World) (tr : Trace)
    (hinst : ∀ (i : Nat) (e : Ev) (x : Nat) (w a : Bool), tr[i]? = some e → e.op.access = some (x, w, a) →
      ∃ s ∈ T, InstanceOf W tr i e x w a s)
    (htok : ∀ (i : Nat) (e : Ev) (x : Nat) (w a : Bool) (k : String), tr[i]? = some e → e.op.access = some (x, w, a) → e.init = false →
      classify P (W.fieldOf x).1 (W.fieldOf x).2 T = .owned k → Owns tr e.tid (W.tokenOf x k) i) :
    Conforms tr (polOf P T W) (Covered P T W) := by
  intro i e x w a hS hi hinit hacc
  obtain ⟨s, hsT, hs⟩ := hinst i e x w a hi hacc
  obtain ⟨hrd, hwr, hat⟩ := hs.kind
  obtain ⟨hfld, hctor, _, hex, hsh⟩ := hs
  have hmem : s ∈ sitesOf (W.fieldOf x).1 (W.fieldOf x).2 T := by simp [sitesOf, hsT, hctor ▸ hinit, ← hfld]
  have hv := classify_sound P (W.fieldOf x).1 (W.fieldOf x).2 T
  unfold polOf
  -- the verdict says what kind of site `s` is, the kind says what `w` and `a` are
  cases hcl : classify P (W.fieldOf x).1 (W.fieldOf x).2 T <;> rw [hcl] at hv
  case unprotected => exact absurd hcl hS.1
  case excluded => exact absurd hcl hS.2
  case immutable => exact hrd (hv s hmem)
  case atomic => exact hat (hv s hmem)
  case guarded m =>
    rcases guardOK_cases (hv s hmem) with ⟨hk, hm⟩ | ⟨hk, hm | hm⟩
    · exact ⟨(hwr hk).2, .inl (hex m hm)⟩
    · exact ⟨(hrd hk).2, .inl (hex m hm)⟩
    · exact ⟨(hrd hk).2, .inr ⟨(hrd hk).1, hsh m hm⟩⟩
  case owned k =>
    refine ⟨?_, htok i e x w a k hi hacc hinit hcl⟩
    rcases hv s hmem with hk | hk
    · exact (hrd hk).2
    · exact (hwr hk).2

theorem tableOK_site {P : Policy} {fields : List (String × String)} {T : List Site} (h : tableOK P fields T = true) :
    ∀ s ∈ T, classify P s.obj s.field T ≠ .unprotected := by
  intro s hs
  simp only [tableOK, Bool.and_eq_true] at h
  have h1 := List.all_eq_true.1 h.1 s hs
  have h2 := List.all_eq_true.1 h.2 (s.obj, s.field) (by simpa using h1)
  simpa using h2

theorem tableOK_race_free (P : Policy) (fields : List (String × String)) (T : List Site) (hok : tableOK P fields T = true)
    (W : World) (tr : Trace) (hwf : WF tr) (hinit : InitFirst tr)
    (hinst : ∀ (i : Nat) (e : Ev) (x : Nat) (w a : Bool), tr[i]? = some e → e.op.access = some (x, w, a) →
      ∃ s ∈ T, InstanceOf W tr i e x w a s)
    (htok : ∀ (i : Nat) (e : Ev) (x : Nat) (w a : Bool) (k : String), tr[i]? = some e → e.op.access = some (x, w, a) → e.init = false →
      classify P (W.fieldOf x).1 (W.fieldOf x).2 T = .owned k → Owns tr e.tid (W.tokenOf x k) i) :
    ∀ x i j, P.excluded.contains (W.fieldOf x) = false → ¬ RaceOn tr x i j := by
  intro x i j hx hrace
  refine policy_race_free tr _ _ hwf (table_conforms P T W tr hinst htok) hinit x i j ?_ hrace
  obtain ⟨_, ei, ej, wi, ai, wj, aj, hi, _, hai, _⟩ := hrace
  obtain ⟨s, hsT, hfld, _⟩ := hinst i ei x wi ai hi hai
  refine ⟨hfld ▸ tableOK_site hok s hsT, fun hex => ?_⟩
  have := classify_sound P (W.fieldOf x).1 (W.fieldOf x).2 T
  rw [hex] at this
  exact absurd (show P.excluded.contains (W.fieldOf x) = true from this) (by rw [hx]; decide)

end NettyVerif.Access
