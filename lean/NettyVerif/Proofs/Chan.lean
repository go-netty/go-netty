import NettyVerif.Model.Chan
import NettyVerif.Base.Run
/-! The inductive invariant of the Chan LTS (write path), for every capacity, payload type, number
    of client goroutines and interleaving. -/
namespace NettyVerif.Chan
variable {α : Type}

structure WInv (s : St α) : Prop where
  fifo : s.broken = false → s.accepted = s.wire ++ s.batch ++ s.q
  -- the `running` flag is held by exactly one token: a writer's pending `Exec`, or the started owner
  owner : (if s.running then 1 else 0) = s.execPending + (if s.snd.isSome then 1 else 0)
  idleFlushed : s.broken = false → s.running = false → s.lockHeld = false → s.flushed = s.wire.length
  heldFlushed : s.broken = false → s.lockHeld = true → s.syncWrote = false → s.flushed = s.wire.length
  noStrand : s.broken = false → s.q ≠ [] → s.running = true ∨ s.pendingCas > 0 ∨ s.lingering ≠ []
  flushedLe : s.flushed ≤ s.wire.length
  syncIdle : s.sync = true → s.pendingCas = 0 ∧ s.lingering = [] ∧ s.q = [] ∧ s.running = false
  asyncNoLock : s.sync = false → s.lockHeld = false ∧ s.syncWrote = false
  closedBroken : s.trClosed = true → s.broken = true
  qLe : s.q.length ≤ s.cap
  batchLe : s.batch.length ≤ batchCap s
  -- the batch as the owner sees it from each of its program points (`none`: nobody owns it)
  atSnd : match s.snd with
    | none => s.broken = false → s.batch = []
    | some .poll => s.batch.length < batchCap s
    | some .writev => s.batch ≠ []
    | some (.put k) => s.batch = [] ∧ 0 < k
    | some .len1 | some .flush => s.batch = []
    | some .store => s.batch = [] ∧ (s.broken = false → s.flushed = s.wire.length)
    | some .failed | some .failedStore => s.broken = true

theorem inv_init (sync : Bool) (cap : Nat) (untilW : Bool) :
    WInv ({ sync := sync, cap := cap, untilW := untilW } : St α) := by
  constructor <;> simp

theorem inv_step {s s' : St α} {a : Act α} (h : WInv s) (hs : step s a = some s') : WInv s' := by
  -- per enabled branch and conjunct: the conjunct mentions no field the branch writes, or the new
  -- control state refutes its premise, or it follows from the branch conditions and the old conjuncts.
  -- The dependencies worth knowing: `noStrand` survives `sndStore` because the released sender joins
  -- `lingering`, and `lingLen` because a sender that saw the queue non-empty stays there; `idleFlushed`
  -- at `sndStore` rests on the owner's annotation at `store`, the `put` row at `sndWritev` on the `writev` row
  cases a <;> step_cases step hs <;> cases h <;> constructor <;>
    first | assumption | (simp; done) | grind [batchCap, List.set_eq_nil_iff]

theorem inv_run {acts : List (Act α)} {s s' : St α} (h : WInv s) (hr : run s acts = some s') : WInv s' :=
  run_invariant inv_step h hr

theorem run_append (a b : List (Act α)) (s : St α) : run s (a ++ b) = (run s a).bind (run · b) := by
  induction a generalizing s with
  | nil => rfl
  | cons x a ih => cases h : step s x <;> simp [run, h, ih]

theorem WInv.idle_clean {s : St α} (h : WInv s) (hb : s.broken = false) (hr : s.running = false) : s.batch = [] := by
  have ho := h.owner
  have hat := h.atSnd
  cases hs : s.snd with
  | some pc => simp [hr, hs] at ho
  | none => rw [hs] at hat; exact hat hb

theorem WInv.wire_prefix {s : St α} (h : WInv s) (hb : s.broken = false) : s.wire <+: s.accepted := by
  rw [h.fifo hb, List.append_assoc]; exact List.prefix_append _ _

/-- what no step undoes; `sealed`: once the channel is closed with no write call past its entry check,
    nothing is accepted any more -/
structure Mono (s s' : St α) : Prop where
  sync : s'.sync = s.sync
  cap : s'.cap = s.cap
  untilW : s'.untilW = s.untilW
  closed : s.closed = true → s'.closed = true
  accepted : s.accepted <+: s'.accepted
  wire : s.wire <+: s'.wire
  sealed : s.closed = true ∧ s.inflight = 0 ∧ s.lockHeld = false →
    s'.inflight = 0 ∧ s'.lockHeld = false ∧ s'.accepted = s.accepted

-- `+contextual`: the premise of `sealed` is what disables the branches that would break its conclusion
theorem step_mono {s s' : St α} {a : Act α} (hs : step s a = some s') : Mono s s' := by
  cases a <;> step_cases step hs <;> constructor <;> first | (simp +contextual; done) | grind

theorem Mono.refl (s : St α) : Mono s s :=
  ⟨rfl, rfl, rfl, id, List.prefix_rfl, List.prefix_rfl, fun h => ⟨h.2.1, h.2.2, rfl⟩⟩

theorem Mono.trans {s t u : St α} (h : Mono s t) (m : Mono t u) : Mono s u :=
  ⟨m.sync.trans h.sync, m.cap.trans h.cap, m.untilW.trans h.untilW, m.closed ∘ h.closed, h.accepted.trans m.accepted,
    h.wire.trans m.wire, fun hs =>
      have ⟨h1, h2, h3⟩ := h.sealed hs
      have ⟨m1, m2, m3⟩ := m.sealed ⟨h.closed hs.1, h1, h2⟩
      ⟨m1, m2, m3.trans h3⟩⟩

theorem run_mono {acts : List (Act α)} {s s' : St α} (hr : run s acts = some s') : Mono s s' :=
  run_invariant (I := Mono s) (fun h ht => h.trans (step_mono ht)) (.refl s) hr

theorem reach_inv {sync untilW : Bool} {cap : Nat} {acts : List (Act α)} {s : St α}
    (hr : run { sync := sync, cap := cap, untilW := untilW } acts = some s) : WInv s :=
  inv_run (inv_init sync cap untilW) hr

end NettyVerif.Chan
