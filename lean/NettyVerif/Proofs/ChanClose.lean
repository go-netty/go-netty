import NettyVerif.Proofs.Chan
/-! Invariants of the Close path of the Chan LTS (single closer, phases of Close, graceful close). -/
namespace NettyVerif.Chan
variable {α : Type}

/-- how far the winning Close has come when it stands at `pc`: error stored, transport closed,
    context cancelled -/
def CPc.done : CPc → Bool × Bool × Bool
  | .trClose => (true, false, false)
  | .cancel => (true, true, false)
  | .fire => (true, true, true)
  | _ => (false, false, false)

structure CInv (s : St α) : Prop where
  phase : (s.closed, s.closeErrSet, s.trClosed, s.ctxDone) =
    (match s.closer with | some pc => (true, pc.done) | none => (s.closed, s.closed, s.closed, s.closed))
  cnt : s.closeCount = (if s.trClosed then 1 else 0)
  failedSend : s.sendFailed = true → s.broken = true
  gracefulOnly : s.graceful = true → s.closed = true
  loop : ∀ n, (s.closer = some (.len n) ∨ s.closer = some (.load n) ∨ s.closer = some (.sleep n)) →
    s.sync = false ∧ s.graceful = false
  -- between seeing the queue empty and loading `running` the closer knows: what was accepted then has left
  -- the queue, and if there is no owner any more it is flushed
  loadPh : ∀ n, s.closer = some (.load n) → s.broken = false →
    s.accAtLen + s.q.length ≤ s.accepted.length ∧ (s.running = false → s.accAtLen ≤ s.flushed)
  gracePh : s.graceful = true → s.broken = false → (s.closer = some .setErr ∨ s.closer = some .trClose) → s.accAtLen ≤ s.flushed
  untilGrace : s.untilW = true → s.sync = false → (s.closer = some .setErr ∨ s.closer = some .trClose) → s.graceful = true

theorem cinv_init (sync : Bool) (cap : Nat) (untilW : Bool) :
    CInv ({ sync := sync, cap := cap, untilW := untilW } : St α) := by
  constructor <;> simp

theorem cinv_step {s s' : St α} {a : Act α} (hw : WInv s) (h : CInv s) (hs : step s a = some s') : CInv s' := by
  -- of the write-path invariant the graceful-close conjuncts need: `fifo` for `loadPh` at `closeLen`; `owner`, `atSnd`
  -- and `idleFlushed` (whose premise `lockHeld = false` comes from `asyncNoLock`) for "no owner any more ⇒ flushed"
  -- (`loadPh` at the owner's steps, `gracePh` at `closeLoad`); `flushedLe` where the wire grows
  obtain ⟨fifo, owner, idleFlushed, -, -, flushedLe, -, asyncNoLock, -, -, -, atSnd⟩ := hw
  cases a <;> step_cases step hs <;> cases h <;> constructor <;> first | assumption | (simp; done) | grind [CPc.done]

theorem invs_run {acts : List (Act α)} {s s' : St α} (hw : WInv s) (hc : CInv s) (hr : run s acts = some s') :
    WInv s' ∧ CInv s' :=
  run_invariant (I := fun s => WInv s ∧ CInv s) (fun h hs => ⟨inv_step h.1 hs, cinv_step h.1 h.2 hs⟩) ⟨hw, hc⟩ hr

theorem reach_cinv {sync untilW : Bool} {cap : Nat} {acts : List (Act α)} {s : St α}
    (hr : run { sync := sync, cap := cap, untilW := untilW } acts = some s) : CInv s :=
  (invs_run (inv_init sync cap untilW) (cinv_init sync cap untilW) hr).2

end NettyVerif.Chan
