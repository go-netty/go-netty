import NettyVerif.Model.Heap
import NettyVerif.Base.Run
/-! Ownership invariant of the queued write path: a buffer waiting in the queue or the batch belongs to the
    channel and holds its call-time snapshot. -/
namespace NettyVerif.Heap

structure HInv (s : St) : Prop where
  /-- the channel owns exactly the buffers in its three lists, and each of them is there once; as a
      count, so that moving a buffer from one list to the next is arithmetic and not a permutation -/
  chan : ∀ id, (s.q ++ s.batch ++ s.recycle).count id = if s.owner id = .chan then 1 else 0
  snap : ∀ id ∈ s.q ++ s.batch, s.heap id = s.snap id
  fifo : s.accepted = s.wire ++ s.batch.map s.snap ++ s.q.map s.snap

theorem hinv_init : HInv {} := by constructor <;> simp

theorem HInv.free {s : St} (h : HInv s) (id : Nat) (hid : s.owner id ≠ .chan) : id ∉ s.q ∧ id ∉ s.batch := by
  have := h.chan id
  simp [hid, List.count_eq_zero] at this
  exact ⟨this.1, this.2.1⟩

theorem upd_same {β : Type} (f : Nat → β) (i : Nat) (v : β) : upd f i v i = v := by simp [upd]
theorem upd_other {β : Type} {f : Nat → β} {i j : Nat} {v : β} (h : j ≠ i) : upd f i v j = f j := by simp [upd, h]

theorem map_upd {β : Type} {f : Nat → β} {i : Nat} {v : β} {l : List Nat} (h : i ∉ l) : l.map (upd f i v) = l.map f :=
  List.map_congr_left fun _ hj => upd_other fun e => h (e ▸ hj)

theorem hinv_step {s s' : St} {a : Act} (ha : a.sound = true) (h : HInv s) (hs : step s a = some s') : HInv s' := by
  have hc := h.chan
  cases a with
  | scribble o id v =>
    cases o <;> simp only [step] at hs <;> try cases hs      -- neither the pool nor the channel scribbles
    all_goals
      split at hs <;> cases hs
      rename_i howner
      have hfree := h.free id (by simp [howner])      -- for the `simp_all` that refutes `j = id`
      exact ⟨hc, fun j hj => (upd_other fun e => by simp_all).trans (h.snap j hj), h.fifo⟩
  | poolGet u id | poolPut u id =>
    simp only [step] at hs
    split at hs <;> cases hs
    rename_i howner
    refine ⟨fun j => ?_, h.snap, h.fifo⟩
    have := hc j
    by_cases hj : j = id <;> simp [upd_same, upd_other, hj, howner] at this ⊢ <;> exact this
  | write c src id clone =>
    cases (show clone = true from ha)
    simp only [step, if_true] at hs
    split at hs; · cases hs
    split at hs <;> cases hs
    rename_i hid
    obtain ⟨hq, hb⟩ := h.free id (by simp [hid])
    refine ⟨fun j => ?_, fun j hj => ?_, ?_⟩
    · have := hc j
      by_cases hj : j = id <;> simp [upd_same, upd_other, hj, Ne.symm, hid, List.count_append] at this ⊢ <;> omega
    · by_cases hji : j = id
      · simp [upd_same, hji]
      · simpa [upd_other, hji] using h.snap j (by simpa [hji] using hj)
    · simp [map_upd hq, map_upd hb, upd_same, h.fifo]
  | recv =>
    simp only [step] at hs
    split at hs <;> cases hs
    rename_i id rest hq
    refine ⟨fun j => ?_, fun j hj => h.snap j ?_, by simp [h.fifo, hq]⟩
    · have := hc j
      simp only [hq, List.count_append, List.count_cons, List.count_nil] at this ⊢
      omega
    · simp only [hq, List.mem_append, List.mem_cons, List.not_mem_nil, or_false] at hj ⊢
      rcases hj with hj | hj | hj <;> simp [hj]
  | writev =>
    simp only [step] at hs
    split at hs <;> cases hs
    refine ⟨fun j => ?_, fun j hj => h.snap j (by simpa using Or.inl hj), ?_⟩
    · have := hc j
      simp only [List.count_append, List.count_nil] at this ⊢
      omega
    · have : s.batch.map s.heap = s.batch.map s.snap := List.map_congr_left fun j hj => h.snap j (by simp [hj])
      simp [h.fifo, this]
  | put early =>
    cases (show early = false by simpa [Act.sound] using ha)
    simp only [step, Bool.false_eq_true, if_false] at hs
    split at hs <;> cases hs
    rename_i id rest hq
    refine ⟨fun j => ?_, h.snap, h.fifo⟩
    have := hc j
    by_cases hj : j = id <;> simp [upd_same, upd_other, hj, Ne.symm, hq, List.count_append] at this ⊢
    · split at this <;> omega
    · omega

theorem hinv_run {acts : List Act} {s s' : St} (hsd : ∀ a ∈ acts, a.sound = true) (h : HInv s)
    (hr : run s acts = some s') : HInv s' :=
  run_invariant_of hinv_step hsd h hr

end NettyVerif.Heap
