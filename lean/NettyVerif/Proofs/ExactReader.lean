import NettyVerif.Model.ExactReader
import NettyVerif.Proofs.Frame
import NettyVerif.Base.Chunks
namespace NettyVerif.ExactR
open NettyVerif.Frame

theorem srcRead_cons (c : Bytes) (cs : List Bytes) (k : Nat) :
    srcRead (c :: cs) k = (c.take k, (if c.length ≤ k then cs else c.drop k :: cs), false) := by
  simp only [srcRead, takeK_eq, List.isEmpty_iff, List.drop_eq_nil_iff]

theorem read_done {n : Int} (h : n ≤ 0) (plen : Nat) (cs : List Bytes) (fin : RErr) :
    read n plen cs fin = ({ data := [], err := some .eof }, n, cs) := by
  simp [read, h]

theorem read_nil {n : Int} (h : 0 < n) (plen : Nat) (fin : RErr) :
    read n plen [] fin = ({ data := [], err := some (if fin = .eof then .unexpectedEOF else fin) }, n, []) := by
  cases fin <;> simp [read, srcRead, Int.not_le.2 h, h]

theorem read_cons {n : Int} (h : 0 < n) (plen : Nat) (c : Bytes) (cs : List Bytes) (fin : RErr) :
    read n plen (c :: cs) fin =
      ({ data := c.take (min plen n.toNat), err := none }, n - (c.take (min plen n.toNat)).length,
       if c.length ≤ min plen n.toNat then cs else c.drop (min plen n.toNat) :: cs) := by
  have hask : (if (plen : Int) > n then n.toNat else plen) = min plen n.toNat := by split <;> omega
  simp [read, srcRead_cons, Int.not_le.2 h, hask]

/-- every consumer, whatever buffer sizes it uses: what it has when it stops, plus what is left in the
    source, is the stream; the counter has moved by what was delivered and never below zero; if it was
    stopped by a clean `io.EOF` the counter is at zero; any other error comes from the exhausted source with
    the counter still positive, and is the premature-end error -/
theorem consume_spec (fin : RErr) : ∀ (ps : List Nat) (acc : Bytes) (n : Int) (cs : List Bytes), 0 ≤ n →
    let r := consume read fin ps acc n cs
    r.1 ++ r.2.2.1.flatten = acc ++ cs.flatten ∧ r.2.1 + r.1.length = n + acc.length ∧ 0 ≤ r.2.1 ∧
    ∀ e, r.2.2.2 = some e →
      if e = .eof then r.2.1 = 0 else r.2.2.1 = [] ∧ 0 < r.2.1 ∧ e = (if fin = .eof then .unexpectedEOF else fin)
  | [], acc, n, cs, hn => by simp [consume, hn]
  | p :: ps, acc, n, cs, hn => by
    rcases Int.lt_or_le 0 n with hpos | h0
    · cases cs with
      | nil => cases fin <;> simp [consume, read_nil hpos, hn, hpos]
      | cons c cs =>
        simp only [consume, read_cons hpos]
        have hl : ((c.take (min p n.toNat)).length : Int) ≤ n := by rw [List.length_take]; omega
        obtain ⟨i1, i2, i3, i4⟩ := consume_spec fin ps (acc ++ c.take (min p n.toNat)) (n - (c.take (min p n.toNat)).length)
          (if c.length ≤ min p n.toNat then cs else c.drop (min p n.toNat) :: cs) (by omega)
        exact ⟨by rw [i1, List.append_assoc, take_rest_flatten], by rw [i2, List.length_append]; omega, i3, i4⟩
    · simp [consume, read_done h0]; omega

/-- **termination**: a consumer that keeps calling `Read` with non-empty buffers is stopped by an error
    after at most (number of chunks + number of bytes in the source) successful calls -/
theorem consume_terminates (fin : RErr) : ∀ (ps : List Nat) (acc : Bytes) (n : Int) (cs : List Bytes),
    (∀ p ∈ ps, 0 < p) → cs.length + cs.flatten.length < ps.length →
    (consume read fin ps acc n cs).2.2.2 ≠ none
  | [], acc, n, cs, _, h => by simp at h
  | p :: ps, acc, n, cs, hpos, hlen => by
    rcases Int.lt_or_le 0 n with hn | h0
    · cases cs with
      | nil => simp [consume, read_nil hn]
      | cons c cs =>
        simp only [consume, read_cons hn]
        apply consume_terminates fin ps _ _ _ (fun q hq => hpos q (List.mem_cons_of_mem _ hq))
        have := hpos p (List.mem_cons_self ..)
        simp only [List.length_cons, List.flatten_cons, List.length_append] at hlen
        split
        · omega
        · simp only [List.length_cons, List.flatten_cons, List.length_append, List.length_drop]; omega
    · simp [consume, read_done h0]

end NettyVerif.ExactR
