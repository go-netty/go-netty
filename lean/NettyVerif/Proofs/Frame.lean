import NettyVerif.Proofs.LengthField
/-! Reader algebra: every reading primitive of the codec model is a function of the flattened
    stream (fragmentation independence); a read-loop step is "decode, then take `lim` bytes", and sees
    of the decoder's result only the stream from the message on and the message's length (`Dec.view`);
    the four codecs. -/
namespace NettyVerif.Frame
open NettyVerif.Guards (lfFrameLength lfFrameLength_bounds decodeLF_guards)

theorem takeK_eq : ∀ (c : Bytes) (k : Nat), takeK c k = (c.take k, c.drop k, k - c.length)
  | [], k => by simp [takeK]
  | b :: c, 0 => by simp [takeK]
  | b :: c, k+1 => by
    simp only [takeK, takeK_eq c k, List.take_succ_cons, List.drop_succ_cons, List.length_cons]
    congr 2; omega

theorem readN_flat : ∀ (cs : List Bytes) (k : Nat),
    (readN cs k).1 = cs.flatten.take k ∧ (readN cs k).2.flatten = cs.flatten.drop k
  | cs, 0 => by simp [readN]
  | [], k+1 => by simp [readN]
  | c :: cs, k+1 => by
    have ih := readN_flat cs (k + 1 - c.length)
    simp only [readN, takeK_eq, List.flatten_cons, List.take_append, List.drop_append]
    split
    · next h =>
      have hl : c.length ≤ k + 1 := List.drop_eq_nil_iff.1 (List.isEmpty_iff.1 h)
      simp [ih, List.take_of_length_le hl, List.drop_eq_nil_iff.2 hl]
    · next h =>
      have hl : k + 1 - c.length = 0 := by
        simp only [List.isEmpty_iff, List.drop_eq_nil_iff] at h; omega
      simp [hl]

theorem readN_fst (cs : List Bytes) (k : Nat) : (readN cs k).1 = cs.flatten.take k := (readN_flat cs k).1
theorem readN_snd (cs : List Bytes) (k : Nat) : (readN cs k).2.flatten = cs.flatten.drop k := (readN_flat cs k).2

theorem readN_snd_len (cs : List Bytes) (k : Nat) : (readN cs k).2.flatten.length = cs.flatten.length - k := by
  rw [readN_snd, List.length_drop]

/-- the form in which the byte-wise loops use it -/
theorem readN_one {cs : List Bytes} {b : UInt8} {tl : Bytes} (h : cs.flatten = b :: tl) :
    ∃ rest, readN cs 1 = ([b], rest) ∧ rest.flatten = tl :=
  ⟨_, Prod.ext (by simp [readN_fst, h]) rfl, by simp [readN_snd, h]⟩

theorem readN_fst_length_eq_iff (cs : List Bytes) (k : Nat) : (readN cs k).1.length = k ↔ k ≤ cs.flatten.length := by
  rw [readN_fst, List.length_take]; omega

theorem readFull_eq (cs : List Bytes) (fin : RErr) (k : Nat) :
    readFull cs fin k =
      (if k ≤ cs.flatten.length then .ok (cs.flatten.take k) else .error (shortErr fin cs.flatten.length),
       (readN cs k).2) := by
  simp only [readFull, readN_fst_length_eq_iff]
  split
  · rw [readN_fst]
  · rw [readN_fst, List.length_take, Nat.min_eq_right (by omega)]

theorem drainExact_eq (f : FrameR) (cs : List Bytes) (fin : RErr) :
    drainExact f cs fin =
      (if f.lim ≤ cs.flatten.length then .msg (f.pre ++ cs.flatten.take f.lim)
       else .raise (if fin = .eof then .unexpectedEOF else fin), (readN cs f.lim).2) := by
  simp only [drainExact, readN_fst_length_eq_iff]
  split <;> simp only [readN_fst]

/-- what a successful exact drain means: the message is the in-memory prefix plus exactly `lim`
    bytes of the stream -/
theorem drainExact_msg (f : FrameR) (cs : List Bytes) (fin : RErr) (m : Bytes) (rest : List Bytes)
    (h : drainExact f cs fin = (.msg m, rest)) :
    m = f.pre ++ cs.flatten.take f.lim ∧ f.lim ≤ cs.flatten.length ∧ rest.flatten = cs.flatten.drop f.lim := by
  rw [drainExact_eq] at h
  split at h <;> simp only [Prod.mk.injEq, Drained.msg.injEq, reduceCtorEq, false_and] at h
  exact ⟨h.1.symm, ‹_›, h.2 ▸ readN_snd cs f.lim⟩

theorem stepRead_exact (c : Codec) (cs : List Bytes) (fin : RErr) :
    stepRead true c cs fin =
      match c.decode cs fin with
      | .raise rest => .raise rest
      | .frame f rest =>
        if f.lim ≤ rest.flatten.length then .msg (f.pre ++ rest.flatten.take f.lim) (readN rest f.lim).2
        else .raise (readN rest f.lim).2 := by
  simp only [stepRead, drainExact_eq, ite_true]
  cases c.decode cs fin with
  | raise rest => rfl
  | frame f rest => by_cases h : f.lim ≤ rest.flatten.length <;> simp only [h, ite_true, ite_false]

/-- all a read-loop step sees of a decoded frame: the stream from the first byte of the message on (what the decoder
    holds in memory, put back in front of the unread source) and the length of the message -/
def Dec.view : Dec → Option (Bytes × Nat)
  | .frame f rest => some (f.pre ++ rest.flatten, f.pre.length + f.lim)
  | .raise _ => none

theorem stepRead_msg_iff {c : Codec} {cs : List Bytes} {fin : RErr} {m tl : Bytes} :
    (∃ rest, stepRead true c cs fin = .msg m rest ∧ rest.flatten = tl) ↔
    (c.decode cs fin).view = some (m ++ tl, m.length) := by
  rw [stepRead_exact]
  cases c.decode cs fin with
  | raise rest => simp [Dec.view]
  | frame f r =>
    simp only [Dec.view, Option.some.injEq, Prod.mk.injEq]
    constructor
    · rintro ⟨rest, h, rfl⟩
      split at h
      · injection h with h1 h2
        subst h1 h2
        simp only [readN_snd, List.append_assoc, List.take_append_drop, List.length_append, List.length_take, true_and]
        omega
      · cases h
    · rintro ⟨h1, h2⟩
      have hm : f.pre ++ r.flatten.take f.lim = m := by rw [← List.take_length_add_append, h1, h2, List.take_left' rfl]
      have ht : r.flatten.drop f.lim = tl := by rw [← List.drop_length_add_append (l₁ := f.pre), h1, h2, List.drop_left' rfl]
      have hl : f.lim ≤ r.flatten.length := by have := congrArg List.length h1; simp only [List.length_append] at this; omega
      exact ⟨_, by rw [if_pos hl, hm], by rw [readN_snd, ht]⟩

/-- the length-field decoder as a function of the stream: the guards on the field unpacked from the header give
    the frame length `fl`; the message starts `strip` bytes into the frame, whether these end inside the header
    (the rest of the header is kept in memory) or beyond it (more bytes are read and dropped) -/
theorem decodeLF_view {c : LFCfg} (hv : c.valid = true) (cs : List Bytes) (fin : RErr) :
    (decodeLF c cs fin).view =
      if (c.offset + c.fieldLen).toNat ≤ cs.flatten.length then
        (lfFrameLength c (wrap64 ((unpack c.big ((cs.flatten.take (c.offset + c.fieldLen).toNat).drop c.offset.toNat) : Nat) : Int))).bind
          fun fl => if c.strip.toNat ≤ cs.flatten.length then some (cs.flatten.drop c.strip.toNat, fl.toNat - c.strip.toNat) else none
      else none := by
  rw [decodeLF_guards, readFull_eq]
  -- header length in ℕ: `strip ≤ e`, `(fl - e).toNat`, `(strip - e).toNat` become statements about `strip.toNat`, `fl.toNat`
  obtain ⟨e, he⟩ := Int.eq_ofNat_of_zero_le (show 0 ≤ c.offset + c.fieldLen by have := LFCfg.valid_bounds hv; omega)
  simp only [he, Int.toNat_natCast, Int.toNat_sub', Int.toNat_le.symm]
  have hr := readN_snd cs e
  generalize cs.flatten = s at hr ⊢
  by_cases hE : e ≤ s.length
  · simp only [hE, if_true]
    cases hfl : lfFrameLength c (wrap64 ((unpack c.big ((s.take e).drop c.offset.toNat) : Nat) : Int)) with
    | none => rfl
    | some fl =>
      have hF : e ≤ fl.toNat := by have := (lfFrameLength_bounds hv hfl).2.1; rwa [he] at this
      clear he
      simp only [Option.bind_some]
      by_cases hs : c.strip.toNat ≤ e
      · simp only [hs, if_true, Dec.view, hr, List.length_drop, List.length_take]
        rw [if_pos (by omega), ← List.drop_append_of_le_length (by rw [List.length_take]; omega), List.take_append_drop]
        congr 3; omega
      · simp only [hs, if_false, readN_fst_length_eq_iff, hr, List.length_drop]
        by_cases hS : c.strip.toNat ≤ s.length
        · simp only [if_pos hS, if_pos (show c.strip.toNat - e ≤ s.length - e by omega), Dec.view, readN_snd, hr,
            List.nil_append, List.drop_drop, List.length_nil]
          congr 3 <;> omega
        · rw [if_neg hS, if_neg (by omega)]; rfl
  · simp only [hE, if_false]; rfl

theorem putUvarint_unfold (n : Nat) :
    putUvarint n = if n < 128 then [UInt8.ofNat n] else UInt8.ofNat (n % 128 + 128) :: putUvarint (n / 128) := by
  rw [putUvarint]; rfl

/-- binary.ReadUvarint ∘ binary.PutUvarint = id (values below 2^63, i.e. every Go `int` length). `k` counts the
    continuation bytes still to come after byte `i`; `i + k + 1 ≤ 9` keeps the loop clear of the overflow test
    on the tenth byte, and the instance `k = 8` below covers `128^9 = 2^63`. -/
theorem readUvarintAux_put : ∀ (k fuel i x s n : Nat) (cs : List Bytes) (tl : Bytes),
    n < 128 ^ (k+1) → k + 1 ≤ fuel → i + k + 1 ≤ 9 → cs.flatten = putUvarint n ++ tl →
    ∃ rest, readUvarintAux fuel i x s cs = .ok (x + n * 2 ^ s) rest ∧ rest.flatten = tl
  | k, 0, _, _, _, _, _, _, _, hf, _, _ => by omega
  | k, fuel+1, i, x, s, n, cs, tl, hn, hf, hi, hflat => by
    rw [putUvarint_unfold] at hflat
    split at hflat <;> rename_i h128 <;> obtain ⟨rest, hr, hrest⟩ := readN_one hflat <;>
      simp only [readUvarintAux, hr, UInt8.toNat_ofNat']
    · -- the last byte is `n` itself (no wrap to a byte); it has no continuation bit; `i ≠ 9`, so no overflow test
      rw [Nat.mod_eq_of_lt (by omega), if_pos h128, if_neg (by omega)]
      exact ⟨rest, rfl, hrest⟩
    · -- a continuation byte `n % 128 + 128` (no wrap), at least 128
      rw [Nat.mod_eq_of_lt (by omega), if_neg (by omega)]
      obtain ⟨k, rfl⟩ : ∃ k', k = k' + 1 := ⟨k - 1, by rcases k with _ | k <;> omega⟩
      obtain ⟨rest', hr', hrest'⟩ := readUvarintAux_put k fuel (i+1) (x + (n % 128 + 128 - 128) * 2 ^ s) (s+7) (n / 128)
        rest tl (by rw [Nat.div_lt_iff_lt_mul (by omega), ← Nat.pow_succ]; exact hn) (by omega) (by omega) hrest
      refine ⟨rest', ?_, hrest'⟩
      rw [hr', Nat.add_sub_cancel, Nat.pow_add, Nat.add_assoc, ← Nat.mul_assoc, Nat.mul_right_comm, ← Nat.add_mul]
      congr 3; omega

theorem readUvarint_put (n : Nat) (cs : List Bytes) (tl : Bytes) (hn : n < 2^63)
    (hflat : cs.flatten = putUvarint n ++ tl) :
    ∃ rest, readUvarint cs = .ok n rest ∧ rest.flatten = tl := by
  simpa [readUvarint] using readUvarintAux_put 8 10 0 0 0 n cs tl (by omega) (by omega) (by omega) hflat

theorem readUvarintAux_inv : ∀ {fuel i x s : Nat} {cs : List Bytes} {v : Nat} {rest : List Bytes},
    readUvarintAux fuel i x s cs = .ok v rest →
    ∃ hdr, cs.flatten = hdr ++ rest.flatten ∧ 1 ≤ hdr.length ∧ hdr.length ≤ fuel
  | 0, _, _, _, _, _, _, h => by simp [readUvarintAux] at h
  | fuel+1, i, x, s, cs, v, rest, h => by
    cases hs : cs.flatten with
    | nil => simp [readUvarintAux, readN_fst, hs] at h
    | cons b tl =>
      obtain ⟨r, hr, hrest⟩ := readN_one hs
      simp only [readUvarintAux, hr] at h
      split at h
      · split at h
        · cases h
        · injection h with _ h2
          exact ⟨[b], by simp [← h2, hrest], by simp, by simp⟩
      · obtain ⟨hdr, h1, h2, h3⟩ := readUvarintAux_inv h
        exact ⟨b :: hdr, by simp [← h1, hrest], by simp, by simp; omega⟩

/-- the delimiter contract: in `body ++ delim` the delimiter occurs for the first time at the very end -/
def delimAdmissible (delim body : Bytes) : Bool :=
  !delim.isEmpty &&
  (List.range (body ++ delim).length).all (fun j => j == 0 || !(delim.reverse.isPrefixOf ((body ++ delim).take j).reverse))

/-- the scan stops at the end of `d` if that is the first place where the delimiter ends -/
theorem scanDelim_ok (drev : Bytes) : ∀ (fuel : Nat) (racc : Bytes) (cs : List Bytes) (d tl : Bytes),
    d ≠ [] → d.length ≤ fuel → cs.flatten = d ++ tl →
    (∀ j, 0 < j → j < d.length → drev.isPrefixOf ((d.take j).reverse ++ racc) = false) →
    drev.isPrefixOf (d.reverse ++ racc) = true →
    ∃ rest, scanDelim drev fuel racc cs = (some (racc.reverse ++ d), rest) ∧ rest.flatten = tl
  | _, _, _, [], _, hne, _, _, _, _ => absurd rfl hne
  | 0, racc, _, b :: d, _, _, hf, _, _, _ => by simp at hf
  | fuel+1, racc, cs, b :: d, tl, _, hf, hflat, hno, hyes => by
    obtain ⟨rest, hr, hrest⟩ := readN_one hflat
    simp only [scanDelim, hr]
    cases d with
    | nil => exact ⟨rest, by simp [show drev.isPrefixOf (b :: racc) = true by simpa using hyes], hrest⟩
    | cons b' d =>
      have h1 : drev.isPrefixOf (b :: racc) = false := by simpa using hno 1 (by omega) (by simp)
      obtain ⟨rest', hs, hrest'⟩ := scanDelim_ok drev fuel (b :: racc) rest (b' :: d) tl (by simp) (by simpa using hf) hrest
        (fun j h0 hj => by simpa using hno (j + 1) (by omega) (by simpa using hj)) (by simpa using hyes)
      exact ⟨rest', by simpa [h1] using hs, hrest'⟩

theorem scanDelim_inv {drev : Bytes} : ∀ {fuel : Nat} {racc : Bytes} {cs : List Bytes} {f : Bytes} {rest : List Bytes},
    scanDelim drev fuel racc cs = (some f, rest) →
    ∃ d, cs.flatten = d ++ rest.flatten ∧ f = racc.reverse ++ d ∧ 1 ≤ d.length ∧ d.length ≤ fuel ∧
      drev.isPrefixOf f.reverse = true
  | 0, _, _, _, _, h => by simp [scanDelim] at h
  | fuel+1, racc, cs, f, rest, h => by
    cases hs : cs.flatten with
    | nil => simp [scanDelim, readN_fst, hs] at h
    | cons b tl =>
      obtain ⟨r, hr, hrest⟩ := readN_one hs
      simp only [scanDelim, hr] at h
      split at h
      · next hp =>
        obtain ⟨rfl, rfl⟩ := h
        exact ⟨[b], by simp [hrest], by simp, by simp, by simp, by simpa using hp⟩
      · obtain ⟨d', h1, h2, h3, h4, h5⟩ := scanDelim_inv h
        exact ⟨b :: d', by simp [← h1, hrest], by simp [h2], by simp, by simp; omega, h5⟩

/-- upper bound on the bytes one delivered frame pulls from the source (10 = binary.MaxVarintLen64) -/
def Codec.bound : Codec → Nat
  | .lf c => c.max.toNat
  | .varint m => m.toNat + 10
  | .delim _ m _ => m.toNat
  | .fixed n => n.toNat

/-- message `m` is a complete frame made of exactly the bytes `consumed` -/
def FrameOK : Codec → Bytes → Bytes → Prop
  | .lf c, consumed, m => m = consumed.drop c.strip.toNat
  | .varint mx, consumed, m => ∃ hdr, consumed = hdr ++ m ∧ hdr.length ≤ 10 ∧ m.length ≤ mx.toNat
  | .delim d _ strip, consumed, m =>
      d.reverse.isPrefixOf consumed.reverse = true ∧
      m = (if strip then consumed.take (consumed.length - d.length) else consumed)
  | .fixed n, consumed, m => m = consumed ∧ m.length = n.toNat

/-- **C08 core**: whenever a (valid) decoder delivers a message, that message is a complete frame
    made of exactly the bytes consumed from the stream — at least one, at most the configured bound
    (`stepRead_msg_iff`, then one inversion per codec: `decodeLF_view`, `readUvarintAux_inv`, `scanDelim_inv`) -/
theorem stepRead_msg_sound {c : Codec} (hv : c.valid = true) {cs : List Bytes} {fin : RErr} {m : Bytes} {rest : List Bytes}
    (h : stepRead true c cs fin = .msg m rest) :
    ∃ consumed, cs.flatten = consumed ++ rest.flatten ∧ 1 ≤ consumed.length ∧
      consumed.length ≤ c.bound ∧ FrameOK c consumed m := by
  have hd := stepRead_msg_iff.1 ⟨rest, h, rfl⟩
  cases c with
  | lf c =>
    obtain ⟨-, fl, hfl, hS, h1, h2⟩ : _ ∧ ∃ fl, lfFrameLength c _ = some fl ∧ c.strip.toNat ≤ cs.flatten.length ∧
        cs.flatten.drop c.strip.toNat = m ++ rest.flatten ∧ fl.toNat - c.strip.toNat = m.length := by
      simpa only [Codec.decode, decodeLF_view hv, Option.ite_none_right_eq_some, Option.bind_eq_some_iff, Option.some.injEq,
        Prod.mk.injEq] using hd
    obtain ⟨_, _, _, _⟩ := lfFrameLength_bounds hv hfl
    have hl : (cs.flatten.take c.strip.toNat).length = c.strip.toNat := by rw [List.length_take]; omega
    refine ⟨cs.flatten.take c.strip.toNat ++ m, by rw [List.append_assoc, ← h1, List.take_append_drop], ?_, ?_,
      (List.drop_left' hl).symm⟩ <;> simp only [Codec.bound, List.length_append, hl] <;> omega
  | varint mx =>
    simp only [Codec.decode, decodeVarint] at hd
    split at hd
    · cases hd
    · next v r hu =>
      split at hd
      · cases hd
      simp only [Dec.view, Option.some.injEq, Prod.mk.injEq, List.nil_append, List.length_nil, Nat.zero_add] at hd
      obtain ⟨hdr, h1, h2, h3⟩ := readUvarintAux_inv hu
      exact ⟨hdr ++ m, by rw [h1, hd.1, List.append_assoc], by rw [List.length_append]; omega,
        by simp only [Codec.bound, List.length_append]; omega, hdr, rfl, h3, by omega⟩
  | delim d mx s =>
    simp only [Codec.decode, decodeDelim] at hd
    split at hd
    · cases hd
    · next fr r hs =>
      obtain ⟨_, h1, rfl, h3, h4, h5⟩ := scanDelim_inv hs
      simp only [Dec.view, Option.some.injEq, Prod.mk.injEq, Nat.add_zero] at hd
      obtain ⟨hm, ht⟩ := List.append_inj hd.1 hd.2
      exact ⟨fr, by rw [h1, ht], h3, h4, h5, hm.symm⟩
  | fixed n =>
    simp only [Codec.decode, decodeFixed, Dec.view, Option.some.injEq, Prod.mk.injEq, List.nil_append, List.length_nil,
      Nat.zero_add] at hd
    simp only [Codec.valid, decide_eq_true_eq] at hv
    exact ⟨m, hd.1, by omega, by simp only [Codec.bound]; omega, rfl, hd.2.symm⟩

theorem stepRead_progress {c : Codec} (hv : c.valid = true) {cs : List Bytes} {fin : RErr} {m : Bytes} {rest : List Bytes}
    (h : stepRead true c cs fin = .msg m rest) : rest.flatten.length < cs.flatten.length := by
  obtain ⟨consumed, h1, h2, _⟩ := stepRead_msg_sound hv h
  rw [h1, List.length_append]; omega

theorem stepRead_eof_raises {c : Codec} (hv : c.valid = true) (fin : RErr) {cs : List Bytes} (h : cs.flatten = []) :
    ∃ rest, stepRead true c cs fin = .raise rest := by
  cases hs : stepRead true c cs fin with
  | raise rest => exact ⟨rest, rfl⟩
  | msg m rest => exact absurd (stepRead_progress hv hs) (by simp [h])

/-- a stream made of the wire frames `enc p` of a list `ps`, each of which one step decodes to `msg p`, is read
    as `ps.map msg`, and the loop then ends with the end-of-stream exception -/
theorem readLoop_frames {α} {c : Codec} (hv : c.valid = true) (fin : RErr) (enc msg : α → Bytes) :
    ∀ (ps : List α) (cs : List Bytes),
    (∀ p ∈ ps, ∀ (cs : List Bytes) (tl : Bytes), cs.flatten = enc p ++ tl →
        ∃ rest, stepRead true c cs fin = .msg (msg p) rest ∧ rest.flatten = tl) →
    cs.flatten = (ps.map enc).flatten →
    ∃ rest, readLoop true c (ps.length + 1) cs fin = (ps.map msg, some rest)
  | [], cs, _, hflat => by
    obtain ⟨rest, hr⟩ := stepRead_eof_raises hv fin hflat
    exact ⟨rest, by simp [readLoop, hr]⟩
  | p :: ps, cs, hstep, hflat => by
    obtain ⟨rest, hr, hrest⟩ := hstep p (List.mem_cons_self ..) cs _ hflat
    obtain ⟨rest', hl⟩ := readLoop_frames hv fin enc msg ps rest (fun q hq => hstep q (List.mem_cons_of_mem _ hq)) hrest
    exact ⟨rest', by simp [readLoop, hr, hl]⟩

/-- every delivered message costs at least one byte of the stream: there are no more messages than bytes, and with
    more fuel than bytes the loop reaches the exception that ends it -/
theorem readLoop_count {c : Codec} (hv : c.valid = true) (fin : RErr) : ∀ (fuel : Nat) (cs : List Bytes),
    (readLoop true c fuel cs fin).1.length ≤ cs.flatten.length ∧
    (cs.flatten.length < fuel → ∃ rest, (readLoop true c fuel cs fin).2 = some rest)
  | 0, _ => by simp [readLoop]
  | fuel+1, cs => by
    simp only [readLoop]
    cases hs : stepRead true c cs fin with
    | raise rest => exact ⟨Nat.zero_le _, fun _ => ⟨rest, rfl⟩⟩
    | msg m rest =>
      have := stepRead_progress hv hs
      obtain ⟨ih1, ih2⟩ := readLoop_count hv fin fuel rest
      exact ⟨by simp only [List.length_cons]; omega, fun h => ih2 (by omega)⟩

end NettyVerif.Frame
