import NettyVerif.Model.Json
/-! The parser reads back what the encoder writes (string escapes, number literals, nesting), given
    fuel exceeding the length of the text. -/
namespace NettyVerif.Json

/-- `pStr` reads the text `l` as the one character `c`, for one unit of fuel -/
def Reads (c : Char) (l : List Char) : Prop := ∀ f r acc, pStr (f + 1) (l ++ r) acc = pStr f r (c :: acc)

/-- without fuel nothing is read, so what is read for one unit is not the empty text -/
theorem Reads.ne_nil {c : Char} {l : List Char} (h : Reads c l) : l ≠ [] := by
  rintro rfl
  simpa [pStr] using h 0 ['"'] []

theorem reads_u {a b c d : Char} {n : Nat} (h : hex4 a b c d = some n) (hs : isSurrogate n = false) :
    Reads (Char.ofNat n) ['\\', 'u', a, b, c, d] := by
  intro f r acc; simp [pStr, h, hs]

theorem hex_rt : ∀ n : Fin 128, hex4 '0' '0' (hexDigit (n.val / 16)) (hexDigit (n.val % 16)) = some n.val := by decide +kernel

theorem escChar_reads (c : Char) : Reads c (escChar c) := by
  unfold escChar
  -- `iteInduction`, unlike `split`, does not look into the `else` branch: that matters on the long `else if`
  -- chains of `escChar` and `pVal`. The seven two-character escapes:
  iterate 7 refine iteInduction (fun h => by subst h; intro f r acc; simp [pStr]) fun _ => ?_
  -- `\u00XY`: only control characters and `<`, `>`, `&` take it, all below 128
  refine iteInduction (fun h => ?_) fun h => ?_
  · have hlt : c.toNat < 128 := by
      rcases h with h | rfl | rfl | rfl
      · omega
      all_goals decide
    simpa using reads_u (hex_rt ⟨c.toNat, hlt⟩) (by simp [isSurrogate]; omega)
  -- U+2028, U+2029
  iterate 2 refine iteInduction (fun h => by subst h; exact reads_u (n := _) (by decide) (by decide)) fun _ => ?_
  intro f r acc
  simp [pStr, *, show ¬ c.toNat < 32 from fun h' => h (.inl h')]

/-- a string body written with any escaping whose pieces `pStr` reads back; fuel exceeds the length of the text -/
theorem pStr_flatMap {esc : Char → List Char} (hesc : ∀ c, Reads c (esc c)) (s : List Char)
    (n : Nat) (rest acc : List Char) (hn : (s.flatMap esc).length < n) :
    pStr n (s.flatMap esc ++ '"' :: rest) acc = some (acc.reverse ++ s, rest) := by
  induction n generalizing s acc with
  | zero => omega
  | succ n ih =>
    cases s with
    | nil => simp [pStr]
    | cons c s =>
      have hc := List.length_pos_iff.2 (hesc c).ne_nil
      simp only [List.flatMap_cons, List.length_append, List.append_assoc] at hn ⊢
      rw [hesc c, ih s (c :: acc) (by omega)]
      simp

theorem escStr_length (s : List Char) : s.length ≤ (escStr s).length := by
  induction s with
  | nil => simp [escStr]
  | cons c s ih =>
    have := List.length_pos_iff.2 (escChar_reads c).ne_nil
    simp only [escStr, List.flatMap_cons, List.length_append, List.length_cons] at *
    omega

theorem pString_enc (s rest : List Char) : pString (escStr s ++ '"' :: rest) = some (s, rest) := by
  rw [pString, escStr, pStr_flatMap escChar_reads s _ rest [] (by simp; omega)]
  rfl

def okRest (rest : List Char) : Prop := ∀ c, rest.head? = some c → isNumChar c = false

theorem okRest_cons {c : Char} {r : List Char} (h : isNumChar c = false) : okRest (c :: r) := by
  intro d hd; simp at hd; subst hd; exact h

theorem takeWhile_num {l rest : List Char} (hl : l.all isNumChar = true) (hr : okRest rest) :
    (l ++ rest).takeWhile isNumChar = l ∧ (l ++ rest).dropWhile isNumChar = rest := by
  have h0 : rest.takeWhile isNumChar = [] ∧ rest.dropWhile isNumChar = rest := by
    cases rest with
    | nil => simp
    | cons c r => simp [List.takeWhile, List.dropWhile, hr c rfl]
  rw [List.takeWhile_append_of_pos (by simpa using hl), List.dropWhile_append_of_pos (by simpa using hl), h0.1, h0.2]
  simp

theorem isNumLit_ne_nil {l : List Char} (h : isNumLit l = true) : ∃ c r, l = c :: r ∧ isNumChar c = true := by
  cases l with
  | nil => simp [isNumLit, grammarOK] at h
  | cons c r =>
    simp only [isNumLit, List.all_cons, Bool.and_eq_true] at h
    exact ⟨c, r, rfl, h.1.1⟩

/-- a number character is none of the characters the parser dispatches on before it tries a number -/
theorem numChar_ne {c x : Char} (hc : isNumChar c = true) (hx : isNumChar x = false) : c ≠ x := by
  rintro rfl; simp [hc] at hx

theorem enc_head (v : JV) (h : v.wf = true) : ∃ c r, enc v = c :: r ∧ isWs c = false ∧ c ≠ ']' := by
  cases v with
  | num l =>
    obtain ⟨c, r, rfl, hc⟩ := isNumLit_ne_nil (l := l) h
    exact ⟨c, r, rfl, by simp (disch := decide) [isWs, numChar_ne hc], numChar_ne hc (by decide)⟩
  | bool b => cases b <;> exact ⟨_, _, rfl, by decide⟩
  | _ => exact ⟨_, _, rfl, by decide⟩

theorem skipWs_enc (v : JV) (h : v.wf = true) (rest : List Char) : skipWs (enc v ++ rest) = enc v ++ rest := by
  obtain ⟨c, r, he, hc, _⟩ := enc_head v h
  rw [he]; simp [skipWs, hc]

/-- only a number needs to know where it ends -/
def needRest (v : JV) (rest : List Char) : Prop :=
  match v with
  | .num _ => okRest rest
  | _ => True

theorem needRest_of_ok {v : JV} {rest : List Char} (h : okRest rest) : needRest v rest := by
  cases v <;> simp [needRest, h]

theorem encL_head (e : JV) (t : JL) (rest : List Char) (he : e.wf = true) :
    ∃ c r, skipWs (encL (.cons e t) ++ rest) = c :: r ∧ c ≠ ']' := by
  obtain ⟨c, r, hce, hws, hne⟩ := enc_head e he
  cases t <;> exact ⟨c, _, by simp [encL, hce, skipWs, hws]; rfl, hne⟩

theorem encM_head (k : List Char) (e : JV) (t : JM) (rest : List Char) :
    ∃ r, skipWs (encM (.cons k e t) ++ rest) = '"' :: r := by
  cases t <;> exact ⟨_, by simp [encM, encStr, skipWs, isWs]; rfl⟩

theorem one_le_sz (v : JV) : 1 ≤ v.sz := by cases v <;> simp [JV.sz]

theorem JL.wf_cons {e : JV} {t : JL} : (JL.cons e t).wf = true ↔ e.wf = true ∧ t.wf = true := by simp [JL.wf]
theorem JM.wf_cons {k : List Char} {e : JV} {t : JM} : (JM.cons k e t).wf = true ↔ e.wf = true ∧ t.wf = true := by
  simp [JM.wf]

section
-- the equations of encoder and parser are the simp set of the round trip; each case names what is particular to it
attribute [local simp] enc encL encM encStr skipWs isWs pVal pElems pMembers pString_enc
mutual
theorem pVal_enc (v : JV) (hw : v.wf = true) (n : Nat) (rest : List Char) (hn : v.sz ≤ n) (hr : needRest v rest) :
    pVal n (enc v ++ rest) = some (v, rest) := by
  match v, n with
  | v, 0 => have := one_le_sz v; omega
  | .null, m+1 | .bool true, m+1 | .bool false, m+1 | .arr .nil, m+1 | .obj .nil, m+1 | .str s, m+1 => simp
  | .num l, m+1 =>
    have hl : isNumLit l = true := hw
    obtain ⟨c, r, rfl, hc⟩ := isNumLit_ne_nil hl
    have htw := takeWhile_num (Bool.and_eq_true _ _ ▸ hl).1 hr
    rw [List.cons_append] at htw
    simp (disch := decide) [numChar_ne hc, hc, htw, hl]
  | .arr (.cons e t), m+1 =>
    obtain ⟨c, r, hsk, hne⟩ := encL_head e t rest (JL.wf_cons.1 hw).1
    have ih := pElems_enc (.cons e t) (by simp) hw m rest (by simp [JV.sz] at hn; omega)
    simp [hsk, hne, ih]
  | .obj (.cons k e t), m+1 =>
    obtain ⟨r, hsk⟩ := encM_head k e t rest
    have ih := pMembers_enc (.cons k e t) (by simp) hw m rest (by simp [JV.sz] at hn; omega)
    simp [hsk, ih]
theorem pElems_enc (l : JL) (hne : l ≠ .nil) (hw : l.wf = true) (n : Nat) (rest : List Char) (hn : l.sz ≤ n) :
    pElems n (encL l ++ rest) = some (l, rest) := by
  match l, n with
  | .nil, _ => exact absurd rfl hne
  | .cons e t, 0 => simp [JL.sz] at hn
  | .cons e t, m+1 =>
    have hw2 := JL.wf_cons.1 hw
    have hsz : e.sz ≤ m ∧ t.sz ≤ m := by simp only [JL.sz] at hn; omega
    have hv := fun d r (hd : isNumChar d = false) =>
      pVal_enc e hw2.1 m (d :: r) hsz.1 (needRest_of_ok (okRest_cons hd))
    cases t with
    | nil => simp (disch := decide) [hv]
    | cons e2 t2 => simp (disch := decide) [hv, pElems_enc (.cons e2 t2) (by simp) hw2.2 m rest hsz.2]
theorem pMembers_enc (l : JM) (hne : l ≠ .nil) (hw : l.wf = true) (n : Nat) (rest : List Char) (hn : l.sz ≤ n) :
    pMembers n (encM l ++ rest) = some (l, rest) := by
  match l, n with
  | .nil, _ => exact absurd rfl hne
  | .cons k e t, 0 => simp [JM.sz] at hn
  | .cons k e t, m+1 =>
    have hw2 := JM.wf_cons.1 hw
    have hsz : e.sz ≤ m ∧ t.sz ≤ m := by simp only [JM.sz] at hn; omega
    have hv := fun d r (hd : isNumChar d = false) =>
      pVal_enc e hw2.1 m (d :: r) hsz.1 (needRest_of_ok (okRest_cons hd))
    cases t with
    | nil => simp (disch := decide) [hv]
    | cons k2 e2 t2 =>
      simp (disch := decide) [hv, pMembers_enc (.cons k2 e2 t2) (by simp) hw2.2 m rest hsz.2]
end
end

mutual
theorem sz_le_enc (v : JV) (hw : v.wf = true) : v.sz ≤ (enc v).length := by
  cases v with
  | arr l => have := szL_le_enc l hw; simp only [JV.sz, enc, List.length_cons]; omega
  | obj m => have := szM_le_enc m hw; simp only [JV.sz, enc, List.length_cons]; omega
  | _ => obtain ⟨c, r, h, _⟩ := enc_head _ hw; simp [JV.sz, h]
theorem szL_le_enc (l : JL) (hw : l.wf = true) : l.sz ≤ (encL l).length := by
  cases l with
  | nil => simp [JL.sz, encL]
  | cons e t =>
    have hw2 := JL.wf_cons.1 hw
    have := sz_le_enc e hw2.1
    have := szL_le_enc t hw2.2
    have := one_le_sz e
    cases t <;> simp only [JL.sz, encL, List.length_append, List.length_cons, List.length_nil] at * <;> omega
theorem szM_le_enc (l : JM) (hw : l.wf = true) : l.sz ≤ (encM l).length := by
  cases l with
  | nil => simp [JM.sz, encM]
  | cons k e t =>
    have hw2 := JM.wf_cons.1 hw
    have := sz_le_enc e hw2.1
    have := szM_le_enc t hw2.2
    cases t <;> simp only [JM.sz, encM, encStr, List.length_append, List.length_cons, List.length_nil] at * <;> omega
end

theorem parse_enc (v : JV) (hw : v.wf = true) (rest : List Char) (hr : needRest v rest) :
    parse (enc v ++ rest) = some (v, rest) :=
  pVal_enc v hw _ rest (by have := sz_le_enc v hw; simp; omega) hr

def AllWf {α} (wf : α → Bool) (o : Option (α × List Char)) : Prop := ∀ x r, o = some (x, r) → wf x = true

theorem AllWf.none {α} {wf : α → Bool} : AllWf wf none := nofun

theorem AllWf.some {α} {wf : α → Bool} {x : α} {r : List Char} (h : wf x = true) : AllWf wf (some (x, r)) := by
  rintro _ _ ⟨⟩; exact h

theorem AllWf.map {α β} {wf : α → Bool} {wf' : β → Bool} {o : Option (α × List Char)} (f : α → β)
    (hf : ∀ x, wf x = true → wf' (f x) = true) (ho : AllWf wf o) : AllWf wf' (o.map fun (x, r) => (f x, r)) := by
  intro y r h
  obtain ⟨⟨x, r'⟩, hx, h'⟩ := Option.map_eq_some_iff.1 h
  cases h'
  exact hf x (ho x _ hx)

/-- whatever the parser returns is well-formed (its numbers are JSON number literals) -/
theorem parser_wf (n : Nat) :
    (∀ cs, AllWf JV.wf (pVal n cs)) ∧ (∀ cs, AllWf JL.wf (pElems n cs)) ∧ (∀ cs, AllWf JM.wf (pMembers n cs)) := by
  induction n with
  | zero => exact ⟨fun _ => .none, fun _ => .none, fun _ => .none⟩
  | succ n ih =>
    obtain ⟨ihv, ihl, ihm⟩ := ih
    refine ⟨fun cs => ?_, fun cs => ?_, fun cs => ?_⟩
    · unfold pVal
      split
      · exact .none
      -- along the `else if` chain: three literals, a string, an array, an object, a number
      iterate 3 refine iteInduction (fun _ => by split <;> first | exact .some rfl | exact .none) fun _ => ?_
      refine iteInduction (fun _ => .map (wf := fun _ => true) JV.str (fun _ _ => rfl) fun _ _ _ => rfl) fun _ => ?_
      refine iteInduction (fun _ => by split <;> first | exact .some rfl | exact .map JV.arr (fun _ h => h) (ihl _)) fun _ => ?_
      refine iteInduction (fun _ => by split <;> first | exact .some rfl | exact .map JV.obj (fun _ h => h) (ihm _)) fun _ => ?_
      exact iteInduction (fun _ => iteInduction (fun h => .some h) fun _ => .none) fun _ => .none
    · unfold pElems
      split
      · exact .none
      rename_i v r hv
      have hv := ihv _ v r hv
      split
      · exact .none
      exact iteInduction (fun _ => .map (JL.cons v) (fun t ht => JL.wf_cons.2 ⟨hv, ht⟩) (ihl _)) fun _ =>
        iteInduction (fun _ => .some (JL.wf_cons.2 ⟨hv, rfl⟩)) fun _ => .none
    · unfold pMembers
      split
      · exact .none
      refine iteInduction (fun _ => ?_) fun _ => .none
      split
      · exact .none
      split
      · exact .none
      refine iteInduction (fun _ => ?_) fun _ => .none
      split
      · exact .none
      rename_i v r hv
      have hv := ihv _ v r hv
      split
      · exact .none
      exact iteInduction (fun _ => .map (JM.cons _ v) (fun t ht => JM.wf_cons.2 ⟨hv, ht⟩) (ihm _)) fun _ =>
        iteInduction (fun _ => .some (JM.wf_cons.2 ⟨hv, rfl⟩)) fun _ => .none

end NettyVerif.Json
