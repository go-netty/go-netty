import NettyVerif.Model.Frame
/-! The length-field codec without the stream: integers on the wire, int64 arithmetic, what the encoder emits,
    and the guards of the decoder (`lfFrameLength`, in namespace `Guards` because it is what the extracted
    guards of `lengthFieldCodec.HandleRead` are compared with). -/
namespace NettyVerif.Frame

theorem packBE_length : ∀ (n v : Nat), (packBE n v).length = n
  | 0, _ => rfl
  | n+1, v => by simp [packBE, packBE_length n v]

theorem unpackBE_packBE : ∀ (n v : Nat), unpackBE (packBE n v) = v % 256 ^ n
  | 0, v => by simp [packBE, unpackBE, Nat.mod_one]
  | n+1, v => by
    simp only [packBE, unpackBE, packBE_length, unpackBE_packBE n v, UInt8.toNat_ofNat']
    have e : (2:Nat)^8 = 256 := by decide
    rw [e, Nat.pow_succ, @Nat.mod_mul (256^n) 256 v, Nat.mul_comm, Nat.add_comm]

theorem unpack_pack (big : Bool) {n v : Nat} (h : v < 256 ^ n) : unpack big (pack big n v) = v := by
  unfold unpack pack
  cases big <;> simp [unpackBE_packBE, Nat.mod_eq_of_lt h]

theorem pack_length (big : Bool) (n v : Nat) : (pack big n v).length = n := by
  unfold pack; cases big <;> simp [packBE_length]

/-- `h` is the range of an int64 (a `Guards.I64 x` is accepted as it stands) -/
theorem wrap64_id {x : Int} (h : -(2^63) ≤ x ∧ x < 2^63) : wrap64 x = x := by
  unfold wrap64
  simp only
  omega

theorem wrap64_small (x : Int) (h0 : 0 ≤ x) (h1 : x < 2^63) : wrap64 x = x :=
  wrap64_id ⟨by omega, h1⟩

theorem wrap64_range (x : Int) : -(2^63) ≤ wrap64 x ∧ wrap64 x < 2^63 := by
  unfold wrap64
  simp only
  omega

theorem wrap64_idem (x : Int) : wrap64 (wrap64 x) = wrap64 x :=
  wrap64_id (wrap64_range x)

theorem fieldMax_lt {n : Int} (h : n = 1 ∨ n = 2 ∨ n = 4 ∨ n = 8) {v : Int} (hv : v ≤ fieldMax n) :
    v.toNat < 256 ^ n.toNat ∧ v < 2^63 := by
  rcases h with rfl | rfl | rfl | rfl <;> simp [fieldMax] at hv ⊢ <;> omega

theorem encodePrep_some {pc : PrepCfg} {body enc : Bytes} (h : encodePrep pc body = some enc) :
    ∃ L : Int, L = body.length + pc.adj + (if pc.incl then pc.fieldLen else 0) ∧ 0 ≤ L ∧ L ≤ fieldMax pc.fieldLen ∧
      enc = pack pc.big pc.fieldLen.toNat L.toNat ++ body := by
  simp only [encodePrep] at h
  refine ⟨_, rfl, ?_⟩
  generalize (body.length : Int) + pc.adj + (if pc.incl then pc.fieldLen else 0) = L at h ⊢
  split at h
  · cases h
  · exact ⟨by omega, by omega, (Option.some.inj h).symm⟩

theorem LFCfg.valid_bounds {c : LFCfg} (h : c.valid = true) :
    (c.fieldLen = 1 ∨ c.fieldLen = 2 ∨ c.fieldLen = 4 ∨ c.fieldLen = 8) ∧ 0 < c.max ∧ 0 ≤ c.offset ∧ 0 ≤ c.strip ∧
      c.offset + c.fieldLen ≤ c.max := by
  simp [LFCfg.valid] at h
  omega

end NettyVerif.Frame

namespace NettyVerif.Guards
open NettyVerif.Frame

/-- the guards of `decodeLF` on the unpacked length field `fl0` (as an int64): the adjusted frame length, or `none` = raise -/
def lfFrameLength (c : LFCfg) (fl0 : Int) : Option Int :=
  let endOff := c.offset + c.fieldLen
  if fl0 < 0 then none else
  let fl := wrap64 (fl0 + wrap64 (c.adj + endOff))
  if fl < endOff then none
  else if fl > c.max then none
  else if c.strip > fl then none
  else some fl

theorem lfFrameLength_eq_some {c : LFCfg} {fl0 fl : Int} :
    lfFrameLength c fl0 = some fl ↔
      0 ≤ fl0 ∧ fl = wrap64 (fl0 + wrap64 (c.adj + (c.offset + c.fieldLen))) ∧
      c.offset + c.fieldLen ≤ fl ∧ fl ≤ c.max ∧ c.strip ≤ fl := by
  simp only [lfFrameLength, Option.ite_none_left_eq_some, Option.some.injEq]
  omega

/-- `decodeLF` is: read the header, apply exactly these guards to the unpacked field, then strip -/
theorem decodeLF_guards (c : LFCfg) (cs : List Bytes) (fin : RErr) :
    decodeLF c cs fin =
      match readFull cs fin (c.offset + c.fieldLen).toNat with
      | (.error _, rest) => .raise rest
      | (.ok hdr, rest) =>
        match lfFrameLength c (wrap64 ((unpack c.big (hdr.drop c.offset.toNat) : Nat) : Int)) with
        | none => .raise rest
        | some fl =>
          if c.strip ≤ c.offset + c.fieldLen then
            .frame { pre := hdr.drop c.strip.toNat, lim := (fl - (c.offset + c.fieldLen)).toNat } rest
          else
            if (readN rest (c.strip - (c.offset + c.fieldLen)).toNat).1.length = (c.strip - (c.offset + c.fieldLen)).toNat then
              .frame { pre := [], lim := (fl - (c.offset + c.fieldLen)).toNat - (c.strip - (c.offset + c.fieldLen)).toNat }
                (readN rest (c.strip - (c.offset + c.fieldLen)).toNat).2
            else .raise (readN rest (c.strip - (c.offset + c.fieldLen)).toNat).2 := by
  unfold decodeLF lfFrameLength
  simp only
  rcases readFull cs fin (c.offset + c.fieldLen).toNat with ⟨_ | hdr, rest⟩
  · rfl
  · simp only
    generalize wrap64 ((unpack c.big (hdr.drop c.offset.toNat) : Nat) : Int) = fl0
    generalize wrap64 (fl0 + wrap64 (c.adj + (c.offset + c.fieldLen))) = fl
    -- guard by guard: where one fires both sides raise
    by_cases h : fl0 < 0 <;> simp only [h, if_true, if_false]
    by_cases h : fl < c.offset + c.fieldLen <;> simp only [h, if_true, if_false]
    by_cases h : fl > c.max <;> simp only [h, if_true, if_false]
    by_cases h : c.strip > fl <;> simp only [h, if_true, if_false]

/-- for a valid configuration an accepted frame covers the header and the strip; in ℕ, as the readers count -/
theorem lfFrameLength_bounds {c : LFCfg} (hv : c.valid = true) {fl0 fl : Int} (h : lfFrameLength c fl0 = some fl) :
    1 ≤ (c.offset + c.fieldLen).toNat ∧ (c.offset + c.fieldLen).toNat ≤ fl.toNat ∧ c.strip.toNat ≤ fl.toNat ∧
      fl.toNat ≤ c.max.toNat := by
  have := LFCfg.valid_bounds hv
  have := lfFrameLength_eq_some.1 h
  omega

end NettyVerif.Guards
