import NettyVerif.Model.Pipeline
/-! Pointer-level reasoning for the pipeline model: paths through `next`/`prev`, the frame
    lemma, well-formedness of the doubly linked list and its preservation by insertion. -/
namespace NettyVerif.Pipeline

@[simp] theorem upd_same {α} (f : Nat → α) (a : Nat) (v : α) : upd f a v a = v := by simp [upd]
theorem upd_other {α} {f : Nat → α} {a x : Nat} {v : α} (h : x ≠ a) : upd f a v x = f x := by simp [upd, h]

theorem map_upd {α} {f : Nat → α} {a : Nat} {v : α} {l : List Nat} (h : a ∉ l) : l.map (upd f a v) = l.map f :=
  List.map_congr_left fun _ hx => upd_other fun e => h (e ▸ hx)

/-- the splice leaves an end of the list alone: `x` is not `c`, which has a successor, and is not the new node -/
theorem upd_upd_end {f : Nat → Option Nat} {n c x w : Nat} {u v : Option Nat} (hx : f x = none) (hc : f c = some w)
    (hn : x ≠ n) : upd (upd f n u) c v x = none := by
  rw [upd_other (fun e => by simp [← e, hx] at hc), upd_other hn, hx]

/-- `Path nx a xs b`: following `nx` from `a` visits exactly `xs` (starting with `a`) and ends at `b` -/
inductive Path (nx : Nat → Option Nat) : Nat → List Nat → Nat → Prop where
  | single (a : Nat) : Path nx a [a] a
  | cons {a b c : Nat} {xs : List Nat} : nx a = some b → Path nx b xs c → Path nx a (a :: xs) c

theorem Path.head_eq {nx a x xs b} (h : Path nx a (x :: xs) b) : x = a := by cases h <;> rfl

theorem Path.head? {nx a xs b} (h : Path nx a xs b) : xs.head? = some a := by cases h <;> rfl

theorem Path.getLast? {nx a xs b} (h : Path nx a xs b) : xs.getLast? = some b := by
  induction h with
  | single a => rfl
  | cons _ hp ih => rw [← ih]; cases hp <;> rfl

/-- frame lemma: a path only depends on the links of its nodes other than the last -/
theorem Path.congr {nx nx' a xs b} (h : Path nx a xs b) (hag : ∀ x ∈ xs.dropLast, nx' x = nx x) :
    Path nx' a xs b := by
  induction h with
  | single a => exact .single a
  | @cons a _ _ _ hn hp ih =>
    have ha : nx' a = _ := (hag a (by cases hp <;> simp)).trans hn
    exact .cons ha (ih fun x hx => hag x (by cases hp <;> simp_all))

theorem Path.frame {nx a xs b} (h : Path nx a xs b) {c : Nat} (v : Option Nat) (hc : c ∉ xs.dropLast) :
    Path (upd nx c v) a xs b :=
  h.congr fun _ hx => upd_other fun e => hc (e ▸ hx)

theorem Path.append {nx a xs b ys c} (h1 : Path nx a xs b) (h2 : Path nx b (b :: ys) c) :
    Path nx a (xs ++ ys) c := by
  induction h1 with
  | single a => simpa using h2
  | cons hn _ ih => exact .cons hn (ih h2)

theorem Path.split {nx a b c} : ∀ {xs ys : List Nat}, Path nx a (xs ++ c :: ys) b →
    Path nx a (xs ++ [c]) c ∧ Path nx c (c :: ys) b
  | [], ys, h => by
    have := h.head_eq; subst this
    exact ⟨.single _, h⟩
  | x :: xs, ys, h => by
    simp only [List.cons_append] at h ⊢
    generalize hl : xs ++ c :: ys = l at h
    cases h with
    | single => simp at hl
    | cons hn hp =>
      subst hl
      obtain ⟨p1, p2⟩ := Path.split (xs := xs) hp
      exact ⟨.cons hn p1, p2⟩

theorem Path.first {nx a y ys b} (h : Path nx a (a :: y :: ys) b) : nx a = some y := by
  cases h with
  | cons hn hp => have := hp.head_eq; subst this; exact hn

theorem Path.link {nx a e c o} {A B : List Nat} (h : Path nx a (A ++ B) e)
    (hc : A.getLast? = some c) (ho : B.head? = some o) : nx c = some o := by
  obtain ⟨xs, rfl⟩ := List.getLast?_eq_some_iff.1 hc
  obtain ⟨ys, rfl⟩ := List.head?_eq_some_iff.1 ho
  rw [List.append_assoc] at h
  exact h.split.2.first

/-- splicing a new node `n` between the adjacent nodes `c` (last of `A`) and `o` (first of `B`) by
    the writes `n ↦ o`, `c ↦ n`.  Serves `next` as it stands and `prev` on the reversed list, with
    `c` and `o` exchanged. -/
theorem Path.insert {nx a e n c o} {A B : List Nat} (h : Path nx a (A ++ B) e)
    (hc : A.getLast? = some c) (ho : B.head? = some o) (hnd : (A ++ B).Nodup) (hn : n ∉ A ++ B) :
    Path (upd (upd nx n (some o)) c (some n)) a (A ++ n :: B) e := by
  obtain ⟨xs, rfl⟩ := List.getLast?_eq_some_iff.1 hc
  obtain ⟨ys, rfl⟩ := List.head?_eq_some_iff.1 ho
  simp only [List.append_assoc, List.singleton_append, List.nodup_append, List.nodup_cons,
    List.mem_append, List.mem_cons, not_or] at h hnd hn
  obtain ⟨f1, f2⟩ := h.split
  cases f2 with
  | cons _ f3 =>
    cases f3.head_eq
    have hd : ∀ {x}, x ∉ o :: ys → x ∉ (o :: ys).dropLast := fun h h' => h (List.dropLast_subset _ h')
    refine ((f1.frame _ ?_).frame _ ?_).append (.cons (upd_same ..) (.cons ?_ ((f3.frame _ ?_).frame _ ?_)))
    · simpa using hn.1
    · simpa using fun h => hnd.2.2 _ h _ (.inl rfl) rfl
    · rw [upd_other hn.2.1, upd_same]
    · exact hd (by simpa using hn.2.2)
    · exact hd (by simpa using hnd.2.1.1)

/-- the doubly linked list `L` (head … tail) is well formed in `p`; `lt` makes `p.fresh` a node that is
    not in the list yet, `lenLe` lets the fuel `p.fresh + 1` of the model's walking loops outlast the list -/
structure WF (p : Pipe) (L : List Nat) : Prop where
  fwd : Path p.next headA L tailA
  bwd : Path p.prev tailA L.reverse headA
  nodup : L.Nodup
  lt : ∀ a ∈ L, a < p.fresh
  size : p.size = L.length
  lenLe : L.length ≤ p.fresh
  tailNext : p.next tailA = none
  headPrev : p.prev headA = none

theorem wf_new : WF newPipe [headA, tailA] := by
  refine ⟨?_, ?_, by decide, ?_, rfl, by simp [newPipe], ?_, ?_⟩
  · exact .cons (by simp [newPipe, headA]) (.single _)
  · exact .cons (by simp [newPipe, tailA]) (.single _)
  · intro a ha; simp [headA, tailA] at ha; rcases ha with rfl | rfl <;> simp [newPipe]
  · simp [newPipe, upd, headA, tailA]
  · simp [newPipe, upd, headA, tailA]

theorem WF.head_mem {p L} (h : WF p L) : headA ∈ L := List.mem_of_head? h.fwd.head?
theorem WF.tail_mem {p L} (h : WF p L) : tailA ∈ L := List.mem_of_getLast? h.fwd.getLast?

theorem WF.link {p : Pipe} {A B : List Nat} {c o : Nat} (h : WF p (A ++ B)) (hc : A.getLast? = some c)
    (ho : B.head? = some o) : p.next c = some o ∧ p.prev o = some c :=
  ⟨h.fwd.link hc ho, (List.reverse_append ▸ h.bwd : Path p.prev tailA (B.reverse ++ A.reverse) headA).link
    (List.getLast?_reverse.trans ho) (List.head?_reverse.trans hc)⟩

/-- insertion after `c` (the common core of addFirst / addLast / AddHandler): with `c` the last node
    of `A` and `B` what follows it, the four pointer writes put the fresh node between `A` and `B` -/
theorem insertAfter_wf {p : Pipe} {A B : List Nat} {c : Nat} (h : Handler) (hwf : WF p (A ++ B))
    (hc : A.getLast? = some c) (hB : B ≠ []) :
    ∃ p', insertAfter (p, c) h = some (p', p.fresh) ∧ WF p' (A ++ p.fresh :: B) ∧ p'.hdl = upd p.hdl p.fresh h ∧
      p'.fresh = p.fresh + 1 := by
  obtain ⟨o, ho⟩ : ∃ o, B.head? = some o := by cases B <;> simp_all
  have hn : p.fresh ∉ A ++ B := fun h => Nat.lt_irrefl _ (hwf.lt _ h)
  have hb : Path p.prev tailA (B.reverse ++ A.reverse) headA := List.reverse_append ▸ hwf.bwd
  obtain ⟨hco, hoc⟩ := hwf.link hc ho
  simp only [insertAfter, hco, alloc]
  refine ⟨_, rfl, ⟨hwf.fwd.insert hc ho hwf.nodup hn, ?_, ?_, ?_, ?_, ?_, ?_, ?_⟩, rfl, rfl⟩
  · have := hb.insert (n := p.fresh) (List.getLast?_reverse.trans ho) (List.head?_reverse.trans hc)
      (List.reverse_append ▸ (List.reverse_perm _).nodup_iff.2 hwf.nodup) (by simpa [and_comm] using hn)
    simpa using this
  · exact List.perm_middle.nodup_iff.2 (List.nodup_cons.2 ⟨hn, hwf.nodup⟩)
  · intro a ha
    rcases List.mem_cons.1 (List.perm_middle.mem_iff.1 ha) with rfl | ha
    · exact Nat.lt_succ_self _
    · exact Nat.lt_succ_of_lt (hwf.lt a ha)
  · simp [hwf.size]; omega
  · have := hwf.lenLe; simp at this ⊢; omega
  · exact upd_upd_end hwf.tailNext hco fun e => hn (e ▸ hwf.tail_mem)
  · exact upd_upd_end hwf.headPrev hoc fun e => hn (e ▸ hwf.head_mem)

end NettyVerif.Pipeline
