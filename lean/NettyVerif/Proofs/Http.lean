import NettyVerif.Model.Http
/-! The response writer's output is read back by the response parser: number printing, lines,
    header block, chunked bodies, the writer's invariant, and `finish_roundtrip`. -/
namespace NettyVerif.Http

theorem digitVal_digitChar : ∀ d : Fin 16, digitVal (digitChar d.val) = some d.val := by decide

def stepB (b : Nat) (acc : Option Nat) (c : UInt8) : Option Nat :=
  match acc, digitVal c with
  | some a, some d => if d < b then some (a * b + d) else none
  | _, _ => none

theorem parseBase_eq (b : Nat) (l : Bytes) : parseBase b l = if l = [] then none else l.foldl (stepB b) (some 0) := rfl

theorem showBase_small (b f n : Nat) (h : n < b) : showBase b (f + 1) n = [digitChar n] := by
  simp [showBase, h]

theorem showBase_big (b f n : Nat) (h : ¬ n < b) : showBase b (f + 1) n = showBase b f (n / b) ++ [digitChar (n % b)] := by
  simp [showBase, h]

theorem showBase_ne_nil {b f n : Nat} : showBase b (f + 1) n ≠ [] := by
  by_cases h : n < b
  · simp [showBase_small b f n h]
  · simp [showBase_big b f n h]

theorem showBase_fold (b : Nat) (hb2 : 2 ≤ b) (hb16 : b ≤ 16) (f n : Nat) (h : n < f) :
    (showBase b f n).foldl (stepB b) (some 0) = some n := by
  induction f generalizing n with
  | zero => omega
  | succ f ih =>
    by_cases hlt : n < b
    · simp [showBase_small b f n hlt, stepB, digitVal_digitChar ⟨n, by omega⟩, hlt]
    · have hmod : n % b < b := Nat.mod_lt _ (by omega)
      rw [showBase_big b f n hlt, List.foldl_append, ih _ (by have := Nat.div_lt_self (n := n) (k := b) (by omega) (by omega); omega)]
      simp [stepB, digitVal_digitChar ⟨n % b, by omega⟩, hmod, Nat.div_add_mod']

theorem parse_show (b : Nat) (hb2 : 2 ≤ b) (hb16 : b ≤ 16) (n : Nat) : parseBase b (showBase b (n + 1) n) = some n := by
  rw [parseBase_eq, if_neg showBase_ne_nil, showBase_fold b hb2 hb16 _ n (by omega)]

theorem parseDec_showDec (n : Nat) : parseBase 10 (showDec n) = some n := parse_show 10 (by omega) (by omega) n
theorem parseHex_showHex (n : Nat) : parseBase 16 (showHex n) = some n := parse_show 16 (by omega) (by omega) n

theorem foldl_stepB_digits {b : Nat} {l : Bytes} {acc : Option Nat} {n : Nat} (h : l.foldl (stepB b) acc = some n) :
    acc ≠ none ∧ ∀ c ∈ l, digitVal c ≠ none := by
  induction l generalizing acc with
  | nil => simp_all
  | cons c l ih =>
    obtain ⟨h1, h2⟩ := ih h
    have : acc ≠ none ∧ digitVal c ≠ none := by
      constructor <;> intro hn <;> simp [stepB, hn] at h1
    simpa [this] using h2

theorem parseBase_digits {b : Nat} {l : Bytes} {n : Nat} (h : parseBase b l = some n) : ∀ c ∈ l, digitVal c ≠ none := by
  rw [parseBase_eq] at h
  split at h
  · cases h
  · exact (foldl_stepB_digits h).2

theorem showHex_noLF (n : Nat) : LF ∉ showHex n := fun h => parseBase_digits (parseHex_showHex n) _ h rfl
theorem showDec_noLF (n : Nat) : LF ∉ showDec n := fun h => parseBase_digits (parseDec_showDec n) _ h rfl

/-- a line ends at the first LF; a CR before it is dropped -/
theorem takeLine_lf {l : Bytes} (h : LF ∉ l) (rest acc : Bytes) :
    takeLine (l ++ LF :: rest) acc =
      some ((if (l.reverse ++ acc).head? = some CR then (l.reverse ++ acc).tail else (l.reverse ++ acc)).reverse, rest) := by
  induction l generalizing acc with
  | nil =>
    simp only [List.nil_append, takeLine, if_true, List.reverse_nil]
    congr 2
  | cons c l ih =>
    simp only [List.mem_cons, not_or] at h
    simp only [List.cons_append, takeLine, Ne.symm h.1, if_false]
    rw [ih h.2]; simp

theorem takeLine_acc {l : Bytes} (h : LF ∉ l) (rest acc : Bytes) :
    takeLine (l ++ CRLF ++ rest) acc = some (acc.reverse ++ l, rest) := by
  have e : l ++ CRLF ++ rest = (l ++ [CR]) ++ LF :: rest := by simp [CRLF, CR, LF]
  rw [e, takeLine_lf (by simp [h]; decide)]
  simp

theorem takeLine_crlf {l : Bytes} (h : LF ∉ l) (rest : Bytes) : takeLine (l ++ CRLF ++ rest) [] = some (l, rest) := by
  simpa using takeLine_acc h rest []

theorem splitColon_app {k : Bytes} (h : COLON ∉ k) (v acc : Bytes) : splitColon (k ++ COLON :: v) acc = some (acc.reverse ++ k, v) := by
  induction k generalizing acc with
  | nil => simp [splitColon]
  | cons c k ih =>
    simp only [List.mem_cons, not_or] at h
    simp [splitColon, Ne.symm h.1, ih h.2]

def notWs (c : UInt8) : Prop := c ≠ SP ∧ c ≠ 9

/-- a header value as the writer may emit it: no line feed, no blank at either end -/
structure OkVal (v : Bytes) : Prop where
  noLF : LF ∉ v
  head : ∀ c, v.head? = some c → notWs c
  last : ∀ c, v.getLast? = some c → notWs c

structure OkKey (k : Bytes) : Prop where
  ne : k ≠ []
  noLF : LF ∉ k
  noColon : COLON ∉ k

theorem trimSP_id (v : Bytes) (h : ∀ c, v.head? = some c → notWs c) : trimSP v = v := by
  cases v with
  | nil => rfl
  | cons c r =>
    have := h c rfl
    simp [trimSP, this.1, this.2]

theorem trim_id (v : Bytes) (h : OkVal v) : trim v = v := by
  unfold trim
  rw [trimSP_id v h.head, trimSP_id v.reverse (by intro c hc; rw [List.head?_reverse] at hc; exact h.last c hc)]
  simp

theorem trim_sp (v : Bytes) (h : OkVal v) : trim (SP :: v) = v := by
  rw [trim, show trimSP (SP :: v) = trimSP v by simp [trimSP]]
  exact trim_id v h

theorem parseHeaderLine_ok {k v : Bytes} (hk : OkKey k) (hv : OkVal v) :
    parseHeaderLine (k ++ [COLON, SP] ++ v) = some (k, v) := by
  simp [parseHeaderLine, splitColon_app hk.noColon (SP :: v) [], hk.ne, trim_sp v hv]

def OkHeaders (hs : List (Bytes × Bytes)) : Prop := ∀ kv ∈ hs, OkKey kv.1 ∧ OkVal kv.2

theorem parseHeaders_nil (f : Nat) (rest : Bytes) : parseHeaders (f + 1) (CRLF ++ rest) = some ([], rest) := by
  simp [parseHeaders, show takeLine (CRLF ++ rest) [] = _ from takeLine_crlf (l := []) (by simp) rest]

theorem parseHeaders_cons (f : Nat) (kv : Bytes × Bytes) (t : Bytes) (h : OkKey kv.1 ∧ OkVal kv.2) :
    parseHeaders (f + 1) (headerLine kv ++ t) = (parseHeaders f t).map fun (hs, r) => (kv :: hs, r) := by
  have hlf : LF ∉ kv.1 ++ [COLON, SP] ++ kv.2 := by
    simp only [List.mem_append, List.mem_cons, List.not_mem_nil, or_false, not_or]
    exact ⟨⟨h.1.noLF, by decide, by decide⟩, h.2.noLF⟩
  rw [headerLine, parseHeaders, takeLine_crlf hlf]
  dsimp only
  rw [if_neg (by simp), parseHeaderLine_ok h.1 h.2]

/-- fuel exceeding the length of the text suffices: every line consumes input -/
theorem parseHeaders_ok (hs : List (Bytes × Bytes)) (h : OkHeaders hs) (f : Nat) (rest : Bytes)
    (hf : ((hs.map headerLine).flatten).length < f) :
    parseHeaders f ((hs.map headerLine).flatten ++ CRLF ++ rest) = some (hs, rest) := by
  induction f generalizing hs with
  | zero => omega
  | succ f ih =>
    cases hs with
    | nil => exact parseHeaders_nil f rest
    | cons kv hs =>
      have : 0 < (headerLine kv).length := by simp [headerLine]; omega
      simp only [List.map_cons, List.flatten_cons, List.append_assoc, List.length_append] at hf ⊢
      rw [parseHeaders_cons f kv _ (h kv (by simp)), ← List.append_assoc,
        ih hs (fun x hx => h x (by simp [hx])) (by omega)]
      rfl

def chunkedBody (ws : List Bytes) : Bytes := (ws.map chunkEnc).flatten

theorem parseChunked_last (f : Nat) (next : Bytes) :
    parseChunked (f + 1) ([48] ++ (CRLF ++ (CRLF ++ next))) = some ([], next) := by
  have h0 : parseBase 16 [48] = some 0 := by decide
  rw [← List.append_assoc, parseChunked, takeLine_crlf (by decide)]
  simp [h0, parseHeaders_nil]

theorem parseChunked_chunk (f : Nat) (b t : Bytes) (hb : b ≠ []) :
    parseChunked (f + 1) (chunkEnc b ++ t) = (parseChunked f t).map fun (x, r) => (b ++ x, r) := by
  have e : chunkEnc b ++ t = showHex b.length ++ CRLF ++ (b ++ (CRLF ++ t)) := by simp [chunkEnc, hb]
  -- the size must be seen to be a successor: size 0 is the last chunk
  obtain ⟨m, hm⟩ := Nat.exists_eq_add_one_of_ne_zero (mt List.eq_nil_of_length_eq_zero hb)
  rw [e, parseChunked, takeLine_crlf (showHex_noLF _)]
  simp only [parseHex_showHex, hm]
  rw [← hm]
  simp +arith [CRLF]

/-- `ws` are the chunks on the wire; fuel exceeding the length of the text suffices -/
theorem parseChunked_ok (ws : List Bytes) (hne : ∀ b ∈ ws, b ≠ []) (f : Nat) (next : Bytes) (hf : (chunkedBody ws).length < f) :
    parseChunked f (chunkedBody ws ++ ([48] ++ (CRLF ++ (CRLF ++ next)))) = some (ws.flatten, next) := by
  induction f generalizing ws with
  | zero => omega
  | succ f ih =>
    cases ws with
    | nil => exact parseChunked_last f next
    | cons b ws =>
      have hb := hne b (by simp)
      have : 0 < (chunkEnc b).length := by have := List.length_pos_iff.2 hb; simp [chunkEnc, hb]; omega
      simp only [chunkedBody, List.map_cons, List.flatten_cons, List.append_assoc, List.length_append] at hf ih ⊢
      rw [parseChunked_chunk f b _ hb, ih ws (fun x hx => hne x (by simp [hx])) (by omega)]
      rfl

theorem showDec_1 (m : Nat) (h : m < 10) : showDec m = [digitChar m] := showBase_small 10 m m h

theorem showDec_3 (s : Nat) (h1 : 100 ≤ s) (h2 : s < 1000) :
    showDec s = [digitChar (s / 100), digitChar (s / 10 % 10), digitChar (s % 10)] := by
  -- `showDec s` runs `showBase` with fuel `s + 1`; written `k + 3` the fuel shows its three successors
  obtain ⟨k, rfl⟩ : ∃ k, s = k + 2 := ⟨s - 2, by omega⟩
  rw [showDec, showBase_big 10 (k + 2) _ (by omega), showBase_big 10 (k + 1) _ (by omega), showBase_small 10 k _ (by omega),
    Nat.div_div_eq_div_mul]
  rfl

/-- the fixed-width fields are read by `parseBase`, so `parseDec_showDec` applies once their widths are known -/
theorem parseStatusLine_ok (minor status : Nat) (hm : minor < 10) (h1 : 100 ≤ status) (h2 : status < 1000) :
    parseStatusLine (sHTTP1 ++ showDec minor ++ [SP] ++ showDec status ++ sOK) = some (minor, status) := by
  have pm := parseDec_showDec minor
  have ps := parseDec_showDec status
  rw [showDec_1 minor hm] at pm ⊢
  rw [showDec_3 status h1 h2] at ps ⊢
  simp [sHTTP1, sOK, SP, parseStatusLine, pm, ps]

def opOK : HOp → Prop
  | .setHeader k v => OkKey k ∧ OkVal v
  | .writeHeader c => 100 ≤ c ∧ c < 1000
  | _ => True

structure Inv (w : RW) : Prop where
  legacy : w.legacy10 = false
  notFinished : w.finished = false
  notCrashed : w.crashed = false
  minor : w.minor ≤ 1
  headerOK : OkHeaders w.header
  before : w.wroteHeader = false → w.out = [] ∧ w.body = []
  after : w.wroteHeader = true →
    100 ≤ w.status ∧ w.status < 1000 ∧ OkHeaders w.sent ∧ (w.minor = 0 → ∀ kv ∈ w.sent, kv.1 ≠ sTE) ∧
    w.chunked = decide (lookup w.sent sTE = sChunked) ∧
    -- ghost: the non-empty writes so far; they are the chunks on the wire (an empty write emits nothing:
    -- a chunk of size 0 would end the body)
    ∃ ws : List Bytes, (∀ b ∈ ws, b ≠ []) ∧ w.body = ws.flatten ∧
      w.out = headBytes w.minor w.status w.sent ++ (if w.chunked then chunkedBody ws else ws.flatten)

theorem okServer : OkKey sServer ∧ OkVal sGoNetty :=
  ⟨⟨by decide, by decide, by decide⟩, ⟨by decide, by simp [sGoNetty, notWs, SP], by simp [sGoNetty, notWs, SP]⟩⟩

theorem inv_init (minor : Nat) (hm : minor ≤ 1) (c : Bool) : Inv { minor := minor, reqClose := c } := by
  refine ⟨rfl, rfl, rfl, hm, ?_, fun _ => ⟨rfl, rfl⟩, fun h => by cases h⟩
  intro kv hkv
  simp at hkv; subst hkv
  exact okServer

theorem OkHeaders.filter {hs : List (Bytes × Bytes)} (h : OkHeaders hs) (p : Bytes × Bytes → Bool) : OkHeaders (hs.filter p) :=
  fun kv hkv => h kv (List.mem_filter.1 hkv).1

@[simp] theorem doHeader_wroteHeader (w : RW) (c : Nat) : (w.doHeader c).wroteHeader = true :=
  iteInduction (motive := fun x : RW => x.wroteHeader = true) id fun _ => rfl

@[simp] theorem doHeader_frame (w : RW) (c : Nat) :
    (w.doHeader c).body = w.body ∧ (w.doHeader c).finished = w.finished ∧ (w.doHeader c).reqClose = w.reqClose := by
  unfold RW.doHeader; split <;> simp

theorem inv_doHeader (w : RW) (c : Nat) (hc : 100 ≤ c ∧ c < 1000) (h : Inv w) : Inv (w.doHeader c) := by
  unfold RW.doHeader
  split
  · exact h
  rename_i hw
  obtain ⟨ho, hb⟩ := h.before (by simpa using hw)
  have hok : OkHeaders (if w.minor = 0 ∧ (!w.legacy10) = true then w.header.filter (fun x => decide (x.1 ≠ sTE)) else w.header) :=
    iteInduction (fun _ => h.headerOK.filter _) fun _ => h.headerOK
  refine { h with headerOK := hok, before := nofun,
                  after := fun _ => ⟨hc.1, hc.2, hok, ?_, rfl, [], by simp, hb, by simp [ho, chunkedBody]⟩ }
  intro (hm0 : w.minor = 0) kv hkv
  simp only [hm0, h.legacy, Bool.not_false, and_self, if_true] at hkv
  simpa using (List.mem_filter.1 hkv).2

theorem chunk_snoc (ws : List Bytes) (b : Bytes) (hne : ∀ x ∈ ws, x ≠ []) :
    ∃ ws', (∀ x ∈ ws', x ≠ []) ∧ ws'.flatten = ws.flatten ++ b ∧ chunkedBody ws' = chunkedBody ws ++ chunkEnc b := by
  by_cases hb : b = []
  · exact ⟨ws, hne, by simp [hb], by simp [hb, chunkEnc]⟩
  · exact ⟨ws ++ [b], by simpa [or_imp, forall_and, hb] using hne, by simp, by simp [chunkedBody]⟩

theorem inv_op (w : RW) (o : HOp) (ho : opOK o) (h : Inv w) : Inv (w.op o) := by
  cases o with
  | setHeader k v =>
    refine { h with headerOK := fun kv hkv => ?_ }
    simp only [RW.op, List.mem_append, List.mem_filter, List.mem_singleton] at hkv
    rcases hkv with hkv | rfl
    · exact h.headerOK kv hkv.1
    · exact ho
  | writeHeader c => exact inv_doHeader w c ho h
  | write b =>
    have h1 := inv_doHeader w 200 (by omega) h
    obtain ⟨hlo, hhi, hsent, hnoTE, hchk, ws, hne, hbody, hout⟩ := h1.after (doHeader_wroteHeader w 200)
    obtain ⟨ws', hne', hfl, hch⟩ := chunk_snoc ws b hne
    simp only [RW.op, h1.notFinished, Bool.false_eq_true, if_false]
    refine { h1 with notFinished := rfl, before := fun hh => by simp at hh,
                     after := fun _ => ⟨hlo, hhi, hsent, hnoTE, hchk, ws', hne', by rw [hfl, ← hbody], ?_⟩ }
    rw [hout]
    split <;> simp [hfl, hch]
  | flush =>
    simp only [RW.op, h.notFinished, Bool.false_eq_true, if_false]
    -- the state is `{ w.doHeader 200 with flushed := … }`: the fields of `Inv` do not mention `flushed`, the repack lets them fit
    exact { inv_doHeader w 200 (by omega) h with }

theorem inv_fold (prog : List HOp) (hp : ∀ o ∈ prog, opOK o) (w : RW) (h : Inv w) : Inv (prog.foldl RW.op w) :=
  prog.foldlRecOn RW.op h fun w h o ho => inv_op w o (hp o ho) h

theorem op_reqClose (w : RW) (o : HOp) : (w.op o).reqClose = w.reqClose ∧ (w.op o).minor = w.minor := by
  cases o <;> simp only [RW.op, RW.doHeader] <;> (repeat' split) <;> simp

theorem fold_reqClose (prog : List HOp) (w : RW) :
    (prog.foldl RW.op w).reqClose = w.reqClose ∧ (prog.foldl RW.op w).minor = w.minor :=
  prog.foldlRecOn (motive := fun w' => w'.reqClose = w.reqClose ∧ w'.minor = w.minor) RW.op ⟨rfl, rfl⟩
    fun w' h o _ => ⟨(op_reqClose w' o).1.trans h.1, (op_reqClose w' o).2.trans h.2⟩

def view (w : RW) : Resp := { minor := w.minor, status := w.status, headers := w.sent, body := w.body }

def selfDelimiting (w : RW) : Bool := w.chunked || decide (lookup w.sent sCL ≠ [])

/-- the handler kept an explicit Content-Length consistent with what it wrote, used no transfer coding
    other than chunked and announced no trailers -/
structure Consistent (w : RW) : Prop where
  length : w.chunked = false → lookup w.sent sCL ≠ [] → lookup w.sent sCL = showDec w.body.length
  coding : lookup w.sent sTE = [] ∨ lookup w.sent sTE = sChunked
  noTrailer : lookup w.sent sTrailer = []

theorem statusText_noLF (m s : Nat) : LF ∉ sHTTP1 ++ showDec m ++ [SP] ++ showDec s ++ sOK := by
  simp only [List.mem_append, not_or]
  exact ⟨⟨⟨⟨by decide, showDec_noLF m⟩, by decide⟩, showDec_noLF s⟩, by decide⟩

theorem parseResp_head (m s : Nat) (hs : List (Bytes × Bytes)) (r2 : Bytes) (hm : m < 10) (h1 : 100 ≤ s) (h2 : s < 1000)
    (hok : OkHeaders hs) (hte : m = 0 → ∀ kv ∈ hs, kv.1 ≠ sTE) :
    parseResp (headBytes m s hs ++ r2) =
      (if lookup hs sTE = sChunked then
         (parseChunked (r2.length + 1) r2).map (fun (b, r3) => ({ minor := m, status := s, headers := hs, body := b }, r3))
       else if lookup hs sCL ≠ [] then
         match parseBase 10 (lookup hs sCL) with
         | none => none
         | some n => if r2.length < n then none else some ({ minor := m, status := s, headers := hs, body := r2.take n }, r2.drop n)
       else some ({ minor := m, status := s, headers := hs, body := r2 }, [])) := by
  have e : headBytes m s hs ++ r2 =
      (sHTTP1 ++ showDec m ++ [SP] ++ showDec s ++ sOK) ++ CRLF ++ ((hs.map headerLine).flatten ++ CRLF ++ r2) := by
    simp [headBytes, statusLine, List.append_assoc]
  have hs' : (if m = 0 then hs.filter (fun x => decide (x.1 ≠ sTE)) else hs) = hs := by
    split
    · exact List.filter_eq_self.2 fun kv hkv => by simpa using hte ‹_› kv hkv
    · rfl
  unfold parseResp
  rw [e, takeLine_crlf (statusText_noLF m s)]
  dsimp only
  rw [parseStatusLine_ok m s hm h1 h2]
  rw [parseHeaders_ok hs hok _ r2 (by simp only [List.length_append]; omega)]
  simp only [hs']
  rfl

/-- **finish, then read back** — the core of C15 -/
theorem finish_roundtrip (w0 : RW) (h : Inv w0) (hcons : Consistent w0.finish) :
    (selfDelimiting w0.finish = true → ∀ next, parseResp (w0.finish.out ++ next) = some (view w0.finish, next)) ∧
    (selfDelimiting w0.finish = false → parseResp w0.finish.out = some (view w0.finish, [])) ∧
    w0.finish.markedClose = (w0.reqClose || !selfDelimiting w0.finish) ∧ w0.finish.flushed = w0.finish.out.length ∧
    w0.finish.finished = true ∧ w0.finish.crashed = false := by
  have h1 := inv_doHeader w0 200 (by omega) h
  obtain ⟨hlo, hhi, hsent, hnoTE, hchk, ws, hne, hbody, hout⟩ := h1.after (doHeader_wroteHeader w0 200)
  have hrc := (doHeader_frame w0 200).2.2
  have hmin := h1.minor
  have hcr := h1.notCrashed
  obtain ⟨hlen, hcod, htr⟩ := hcons
  simp only [RW.finish, h.notFinished, Bool.false_eq_true, if_false] at hlen hcod htr ⊢
  generalize w0.doHeader 200 = w1 at *
  have head := fun r2 => parseResp_head w1.minor w1.status w1.sent r2 (by omega) hlo hhi hsent hnoTE
  cases hch : w1.chunked with
  | true =>
    have hte : lookup w1.sent sTE = sChunked := by rw [hch] at hchk; simpa using hchk.symm
    refine ⟨fun _ next => ?_, fun hh => by simp [selfDelimiting] at hh,
      by simp [selfDelimiting, hrc, hte, sChunked], trivial, trivial, hcr⟩
    simp only [view, hch, if_true, htr, hout, List.append_assoc]
    rw [head, if_pos hte,
      parseChunked_ok ws hne _ next (by simp only [List.length_append]; omega)]
    simp [hbody]
  | false =>
    have hte : lookup w1.sent sTE ≠ sChunked := by rw [hch] at hchk; simpa using hchk.symm
    have hte0 : lookup w1.sent sTE = [] := hcod.resolve_right hte
    simp only [hch, Bool.false_eq_true, if_false, ← hbody] at hout
    refine ⟨fun hsd next => ?_, fun hsd => ?_, ?_, trivial, trivial, hcr⟩
    · have hcl : lookup w1.sent sCL ≠ [] := by simpa [selfDelimiting] using hsd
      simp only [view, Bool.false_eq_true, if_false, List.append_nil, hout, List.append_assoc]
      rw [head, if_neg hte, if_pos hcl, hlen hch hcl, parseDec_showDec]
      simp
    · have hcl : lookup w1.sent sCL = [] := by simpa [selfDelimiting] using hsd
      simp only [view, Bool.false_eq_true, if_false, List.append_nil, hout]
      rw [head, if_neg hte, if_neg (by simp [hcl])]
    · by_cases hcl : lookup w1.sent sCL = [] <;> simp [selfDelimiting, hrc, hte0, hcl]

end NettyVerif.Http
