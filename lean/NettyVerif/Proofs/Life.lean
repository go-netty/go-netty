import NettyVerif.Model.Life
import NettyVerif.Base.Run
/-! `Life.Inv` (Model/Life.lean) holds along every sequence of events the lifecycle acceptor admits: the guard of
    an event is what the conjuncts it touches need. -/
namespace NettyVerif.Life

theorem inv_init : Inv {} := by constructor <;> simp

theorem inv_step {s s' : St} {e : Ev} (h : Inv s) (hs : step s e = some s') : Inv s' := by
  cases e <;> step_cases step hs <;> cases h <;> constructor <;> first | assumption | (simp; done) | grind

theorem inv_run {es : List Ev} {s s' : St} (h : Inv s) (hr : run s es = some s') : Inv s' :=
  run_invariant inv_step h hr

end NettyVerif.Life
