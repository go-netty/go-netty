import NettyVerif.Model.HB
/-! Lock and token disciplines order conflicting accesses by happens-before; the policy theorem. -/
namespace NettyVerif.HB

theorem relOp_not_access (s : Bool) (l : Nat) : (relOp s l).access = none := by
  cases s <;> rfl

theorem HB.lt {tr : Trace} {i j : Nat} (h : HB tr i j) : i < j := by
  induction h with
  | step hij _ _ _ => exact hij
  | trans _ _ ih1 ih2 => omega

theorem HB.adjacent {tr : Trace} {i j : Nat} (h : HB tr i j) (hj : j = i + 1) :
    ∃ ei ej, tr[i]? = some ei ∧ tr[j]? = some ej ∧ Edge ei ej := by
  induction h with
  | step _ hi hj' he => exact ⟨_, _, hi, hj', he⟩
  | trans h1 h2 => have := h1.lt; have := h2.lt; omega

/-- two critical sections of one lock, not both shared, by different goroutines: the earlier
    access happens-before the later one -/
theorem held_ordered {tr : Trace} {l i j : Nat} {ei ej : Ev} {s1 s2 : Bool} (hwf : WF tr)
    (hij : i < j) (hi : tr[i]? = some ei) (hj : tr[j]? = some ej)
    (hacc : ei.op.access ≠ none) (hne : ei.tid ≠ ej.tid) (hs : ¬(s1 = true ∧ s2 = true))
    (h1 : Held tr ei.tid l s1 i) (h2 : Held tr ej.tid l s2 j) : HB tr i j := by
  obtain ⟨a1, e1, ha1i, ha1, ht1, ho1, hno1⟩ := h1
  obtain ⟨a2, e2, ha2j, ha2, ht2, ho2, hno2⟩ := h2
  rcases Nat.lt_trichotomy a1 a2 with hlt | rfl | hlt
  · obtain ⟨r, er, har, hra, hr, hrt, hro⟩ := hwf.lock a1 a2 e1 e2 l s1 s2 hlt ha1 ha2 ho1 ho2 hs
    have hri : i < r := by
      rcases Nat.lt_trichotomy r i with h | rfl | h
      · exact absurd ⟨hrt.trans ht1, hro⟩ (hno1 r er har h hr)
      · cases hi.symm.trans hr; exact absurd (hro ▸ relOp_not_access s1 l) hacc
      · exact h
    -- the access, then the same goroutine's release; release → the later acquire; the acquire, then the same goroutine's access
    have s1' : HB tr i r := .step hri hi hr (.inl (hrt.trans ht1).symm)
    have s2' : HB tr r a2 := .step hra hr ha2 (.inr (.inl ⟨l, s1, s2, hro, ho2, hs⟩))
    have s3' : HB tr a2 j := .step ha2j ha2 hj (.inl ht2)
    exact .trans (.trans s1' s2') s3'
  · cases ha1.symm.trans ha2; exact absurd (ht1.symm.trans ht2) hne
  · obtain ⟨r, er, har, hra, hr, hrt, hro⟩ := hwf.lock a2 a1 e2 e1 l s2 s1 hlt ha2 ha1 ho2 ho1 (fun h => hs ⟨h.2, h.1⟩)
    exact absurd ⟨hrt.trans ht2, hro⟩ (hno2 r er har (by omega) hr)

/-- two ownership periods of one token by different goroutines: the earlier access happens-before the later one -/
theorem owns_ordered {tr : Trace} {k i j : Nat} {ei ej : Ev} (hwf : WF tr)
    (hij : i < j) (hi : tr[i]? = some ei) (hj : tr[j]? = some ej)
    (hacc : ei.op.access ≠ none) (hne : ei.tid ≠ ej.tid)
    (h1 : Owns tr ei.tid k i) (h2 : Owns tr ej.tid k j) : HB tr i j := by
  obtain ⟨a1, e1, ha1i, ha1, ho1, hno1⟩ := h1
  obtain ⟨a2, e2, ha2j, ha2, ho2, hno2⟩ := h2
  rcases Nat.lt_trichotomy a1 a2 with hlt | rfl | hlt
  · obtain ⟨r, er, har, hra, hr, hrt, hro⟩ := hwf.token a1 a2 e1 e2 k _ _ hlt ha1 ha2 ho1 ho2
    have hri : i < r := by
      rcases Nat.lt_trichotomy r i with h | rfl | h
      · exact absurd ⟨hrt, hro⟩ (hno1 r er har h hr)
      · cases hi.symm.trans hr; exact absurd (by rw [hro]; rfl) hacc
      · exact h
    -- the access, then the owner's release; release → the later acquisition; the acquisition → its owner's access
    have s1' : HB tr i r := .step hri hi hr (.inl hrt.symm)
    have s2' : HB tr r a2 := .step hra hr ha2 (.inr (.inr (.inl ⟨k, _, hro, ho2⟩)))
    have s3' : HB tr a2 j := .step ha2j ha2 hj (.inr (.inr (.inr (.inr ⟨k, ho2⟩))))
    exact .trans (.trans s1' s2') s3'
  · cases ha1.symm.trans ha2; exact absurd (Op.tacq.inj (ho1.symm.trans ho2)).2 hne
  · obtain ⟨r, er, har, hra, hr, hrt, hro⟩ := hwf.token a2 a1 e2 e1 k _ _ hlt ha2 ha1 ho2 ho1
    exact absurd ⟨hrt, hro⟩ (hno2 r er har (by omega) hr)

/-- **policy ⇒ race freedom**: in every well-formed trace whose accesses obey a protection policy
    and whose objects are safely published, any two conflicting accesses are ordered by
    happens-before -/
theorem policy_race_free (tr : Trace) (pol : Nat → Disc) (S : Nat → Prop) (hwf : WF tr) (hc : Conforms tr pol S)
    (hinit : InitFirst tr) : ∀ x i j, S x → ¬ RaceOn tr x i j := by
  intro x i j hS ⟨hij, ei, ej, wi, ai, wj, aj, hi, hj, hai, haj, hne, hw, hat, hnhb⟩
  apply hnhb
  have hacc : ei.op.access ≠ none := by rw [hai]; simp
  cases hii : ei.init with
  | true =>
    cases hji : ej.init with
    | true => exact absurd (hinit.single i j ei ej x wi ai wj aj hi hj hai haj hii hji) hne
    | false => exact (hinit.before i j ei ej x wi ai wj aj hi hj hai haj hii hji).2
  | false =>
    cases hji : ej.init with
    | true =>
      have := (hinit.before j i ej ei x wj aj wi ai hj hi haj hai hji hii).1
      omega
    | false =>
      have c1 := hc i ei x wi ai hS hi hii hai
      have c2 := hc j ej x wj aj hS hj hji haj
      cases hp : pol x <;> rw [hp] at c1 c2
      case immutable =>
        rcases hw with h | h
        · rw [c1.1] at h; cases h
        · rw [c2.1] at h; cases h
      case atomic => exact absurd ⟨c1, c2⟩ hat
      case guarded l =>
        rcases c1.2 with g1 | ⟨w1, g1⟩ <;> rcases c2.2 with g2 | ⟨w2, g2⟩
        iterate 3 exact held_ordered hwf hij hi hj hacc hne (by simp) g1 g2
        -- the fourth: both hold the lock shared, so neither writes
        rcases hw with h | h
        · rw [w1] at h; cases h
        · rw [w2] at h; cases h
      case owned k => exact owns_ordered hwf hij hi hj hacc hne c1.2 c2.2

end NettyVerif.HB
