import NettyVerif.Gen.Pmath
import NettyVerif.Model.Pool
/-! Helper lemmas for C19's size-class arithmetic: the *generated* BitVec definitions
    (Gen/Pmath.lean, regenerated from utils/pool/internal/pmath/pmath.go on every run) are related
    to Nat-level specifications. -/
namespace NettyVerif.Pmath
open Gen.Pmath
open NettyVerif.Pool (ceilNat floorNat)

theorem log2_bounds (m : Nat) (hm : m ≠ 0) :
    2^m.log2 ≤ m ∧ m < 2^(m.log2 + 1) :=
  ⟨Nat.log2_self_le hm, Nat.lt_log2_self⟩

theorem ceilNat_of_gt {n : Nat} (h : 2 < n) : ceilNat n = 2^((n-1).log2 + 1) := by
  rw [ceilNat, if_neg (by omega)]

theorem floorNat_of_gt {n : Nat} (h : 2 < n) : floorNat n = 2^n.log2 := by
  rw [floorNat, if_neg (by omega)]

theorem ceilNat_spec (n : Nat) (h : 2 < n) : n ≤ ceilNat n ∧ ceilNat n < 2 * n := by
  have := log2_bounds (n - 1) (by omega)
  rw [ceilNat_of_gt h]; omega

theorem floorNat_spec (n : Nat) (h : 2 < n) : floorNat n ≤ n ∧ n < 2 * floorNat n := by
  have := log2_bounds n (by omega)
  rw [floorNat_of_gt h]; omega

theorem toInt_eq_toNat (n : I) (h : 0 ≤ n.toInt) : n.toInt = n.toNat ∧ n.toNat < 2^63 := by
  have := BitVec.toInt_pos_iff.1 h
  exact ⟨BitVec.toInt_eq_toNat_of_lt this, by omega⟩

theorem toNat_pred (n : I) (h : 0 < n.toNat) : (n - 1#64).toNat = n.toNat - 1 :=
  BitVec.toNat_sub_of_le (by rw [BitVec.le_def]; exact h)

/-- the state of `fillBits` after the shifts so far have smeared the leading bit, at position `L`, over `w` bits -/
def Fill (w L : Nat) (x : I) : Prop := x.toNat < 2^(L+1) ∧ ∀ i, i ≤ L → L < i + w → x.getLsbD i = true

theorem fill_step {w L : Nat} {x : I} (hL : L < 63) (h : Fill w L x) : Fill (2*w) L (x ||| x.sshiftRight w) := by
  have hx : x.toNat < 2^63 := Nat.lt_of_lt_of_le h.1 (Nat.pow_le_pow_right (by omega) (by omega))
  rw [BitVec.sshiftRight_eq_of_msb_false (BitVec.msb_eq_false_iff_two_mul_lt.2 (by omega))]
  refine ⟨?_, fun i hi hw => ?_⟩
  · rw [BitVec.toNat_or, BitVec.toNat_ushiftRight]
    exact Nat.or_lt_two_pow h.1 (Nat.lt_of_le_of_lt (Nat.shiftRight_le _ _) h.1)
  · rw [BitVec.getLsbD_or, BitVec.getLsbD_ushiftRight]
    by_cases hlt : L < i + w
    · simp [h.2 i hi hlt]
    · simp [h.2 (w + i) (by omega) (by omega)]

theorem fillBits_toNat (n : I) (h0 : n.toNat ≠ 0) (h : n.toNat < 2^63) : (fillBits n).toNat = 2^(n.toNat.log2 + 1) - 1 := by
  have hL : n.toNat.log2 < 63 := (Nat.log2_lt h0).2 h
  have h1 : Fill 1 n.toNat.log2 n := ⟨Nat.lt_log2_self, fun i hi hw => by
    rw [← BitVec.testBit_toNat, show i = n.toNat.log2 by omega]; exact Nat.testBit_log2 h0⟩
  have h64 : Fill 64 n.toNat.log2 (fillBits n) :=
    fill_step hL (fill_step hL (fill_step hL (fill_step hL (fill_step hL (fill_step hL h1)))))
  apply Nat.eq_of_testBit_eq; intro i
  by_cases hi : i ≤ n.toNat.log2
  · rw [BitVec.testBit_toNat, h64.2 i hi (by omega)]; simp; omega
  · rw [Nat.testBit_lt_two_pow (Nat.lt_of_lt_of_le h64.1 (Nat.pow_le_pow_right (by omega) (by omega)))]
    simp; omega

theorem ceil_unfold (n : I) : CeilToPowerOfTwo n =
    if 2^62 < n.toInt then none else if n.toInt ≤ 2 then some n else some (fillBits (n - 1#64) + 1#64) := by
  have hp : ((n &&& 4611686018427387904#64) != 0#64 && BitVec.slt 4611686018427387904#64 n) = decide (2^62 < n.toInt) := by
    rw [BitVec.slt_eq_decide, show (4611686018427387904#64 : I).toInt = 2^62 from rfl, Bool.and_eq_right_iff_imp]
    intro h
    have h := of_decide_eq_true h
    obtain ⟨e, hlt⟩ := toInt_eq_toNat n (by omega)
    -- between 2^62 and 2^63 bit 62 is set
    have hb : n.getLsbD 62 = true := by rw [← BitVec.testBit_toNat]; exact Nat.testBit_of_two_pow_le_and_two_pow_add_one_gt (by omega) hlt
    rw [bne_iff_ne]; intro hz
    have := congrArg (·.getLsbD 62) hz
    simp only [BitVec.getLsbD_and, hb] at this
    exact absurd this (by decide)
  unfold CeilToPowerOfTwo
  simp only [hp, BitVec.sle_eq_decide, show (2#64 : I).toInt = 2 from rfl, decide_eq_true_eq]

theorem floor_unfold (n : I) : FloorToPowerOfTwo n =
    if n.toInt ≤ 2 then n else (fillBits n).sshiftRight 1 + 1#64 := by
  unfold FloorToPowerOfTwo
  simp only [BitVec.sle_eq_decide, show (2#64 : I).toInt = 2 from rfl, decide_eq_true_eq]; rfl

theorem ceil_eq (n : I) (h0 : 2 < n.toInt) (h : n.toInt ≤ 2^62) :
    ∃ r, CeilToPowerOfTwo n = some r ∧ r.toNat = ceilNat n.toNat := by
  obtain ⟨e, _⟩ := toInt_eq_toNat n (by omega)
  rw [ceil_unfold, if_neg (by omega), if_neg (by omega)]
  refine ⟨_, rfl, ?_⟩
  have hp := toNat_pred n (by omega)
  have hf := fillBits_toNat (n - 1#64) (by omega) (by omega)
  have := log2_bounds (n.toNat - 1) (by omega)
  rw [ceilNat_of_gt (by omega), BitVec.toNat_add_of_lt, hf, hp]
  · simp; omega
  · rw [hf, hp]; simp; omega    -- no carry: `2^(log2 (n-1) + 1) ≤ 2 (n-1) < 2^64`

theorem floor_eq (n : I) (h0 : 2 < n.toInt) : (FloorToPowerOfTwo n).toNat = floorNat n.toNat := by
  obtain ⟨e, hlt⟩ := toInt_eq_toNat n (by omega)
  have hf := fillBits_toNat n (by omega) hlt
  have := log2_bounds n.toNat (by omega)
  have : 2^n.toNat.log2 ≤ 2^62 := Nat.pow_le_pow_right (by omega) (Nat.le_of_lt_succ ((Nat.log2_lt (by omega)).2 hlt))
  rw [floor_unfold, if_neg (by omega), floorNat_of_gt (by omega),
    BitVec.sshiftRight_eq_of_msb_false (BitVec.msb_eq_false_iff_two_mul_lt.2 (by omega)), BitVec.toNat_add_of_lt]
  · simp; omega     -- `(2^(log2 n + 1) - 1) / 2 + 1 = 2^log2 n`
  · simp; omega

/-- exact on every 64-bit pattern: 0 passes the test, and so does the least int (bit 63 alone) -/
theorem isPow2_iff (n : I) : IsPowerOfTwo n = true ↔ n = 0#64 ∨ ∃ k, n.toNat = 2^k := by
  by_cases h0 : n = 0#64
  · subst h0; simp; decide
  · have hn : n.toNat ≠ 0 := fun h => h0 (BitVec.eq_of_toNat_eq h)
    rw [← Nat.isPowerOfTwo, ← Nat.and_sub_one_eq_zero_iff_isPowerOfTwo hn, ← toNat_pred n (by omega), ← BitVec.toNat_and]
    simp [IsPowerOfTwo, ← BitVec.toNat_inj, h0]

theorem max_spec (a b : I) : (Gen.Pmath.Max a b).toInt = max a.toInt b.toInt := by
  unfold Gen.Pmath.Max; rw [BitVec.slt_eq_decide]; by_cases h : a.toInt < b.toInt <;> simp [h] <;> omega

theorem min_spec (a b : I) : (Gen.Pmath.Min a b).toInt = min a.toInt b.toInt := by
  unfold Gen.Pmath.Min; rw [BitVec.slt_eq_decide]; by_cases h : a.toInt < b.toInt <;> simp [h] <;> omega

end NettyVerif.Pmath
