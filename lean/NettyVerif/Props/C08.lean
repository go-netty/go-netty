import NettyVerif.Proofs.Frame
import NettyVerif.Proofs.VarLen
import NettyVerif.Proofs.Guards
import NettyVerif.Proofs.ExactReader
/-! # C08 — Frame decoders never deliver a truncated, oversized or phantom frame

Over the same executable codec model as C04 (Model/Frame.lean), for
*arbitrary* byte streams `cs` (any chunking), any end-of-stream kind `fin` and any valid
configuration. `stepRead true` is the repaired code (exact-length frame reader); `stepRead false`
is the pinned code (io.LimitReader), kept for the negation witnesses. -/
namespace NettyVerif.C08
open NettyVerif.Frame

/-- **delivered frames are complete and bounded**: whenever a decoder delivers a message it is made
    of exactly the bytes consumed from the stream (`FrameOK`: whole length-field frame minus the
    strip, varint body of its declared length ≤ max, delimiter-terminated frame ≤ max, exactly `n`
    bytes for fixed), at least one byte and at most `bound` (max, resp. max + 10-byte varint header)
    bytes were pulled from the source; nothing short-then-EOF is ever delivered. -/
theorem C08_delivered_frames_complete (c : Codec) (hv : c.valid = true) (cs : List Bytes) (fin : RErr)
    (m : Bytes) (rest : List Bytes) (h : stepRead true c cs fin = .msg m rest) :
    ∃ consumed, cs.flatten = consumed ++ rest.flatten ∧ 1 ≤ consumed.length ∧
      consumed.length ≤ c.bound ∧ FrameOK c consumed m :=
  stepRead_msg_sound hv h

/-- consequence: a fixed-length decoder never delivers anything but exactly `n` bytes -/
theorem C08_fixed_exact (n : Int) (hn : n > 0) (cs : List Bytes) (fin : RErr) (m : Bytes) (rest : List Bytes)
    (h : stepRead true (.fixed n) cs fin = .msg m rest) : m.length = n.toNat := by
  obtain ⟨_, _, _, _, hok⟩ := stepRead_msg_sound (c := .fixed n) (decide_eq_true hn) h
  exact hok.2

/-- **end of stream is never a message**: on an exhausted stream every decoder raises (the
    exception that reaches the tail and closes the channel) … -/
theorem C08_eof_raises (c : Codec) (hv : c.valid = true) (fin : RErr) (cs : List Bytes) (h : cs.flatten = []) :
    ∃ rest, stepRead true c cs fin = .raise rest :=
  stepRead_eof_raises hv fin h

/-- … and the read loop always terminates in that exception: no input makes it deliver messages
    forever or spin without consuming input (every delivered message consumed ≥ 1 byte). -/
theorem C08_loop_terminates (c : Codec) (hv : c.valid = true) (fin : RErr) (cs : List Bytes) :
    ∃ rest, (readLoop true c (cs.flatten.length + 1) cs fin).2 = some rest :=
  (readLoop_count hv fin _ cs).2 (by omega)

/-- the number of messages delivered from a stream is at most its length in bytes -/
theorem C08_no_phantom_messages (c : Codec) (hv : c.valid = true) (fin : RErr) : ∀ (fuel : Nat) (cs : List Bytes),
    (readLoop true c fuel cs fin).1.length ≤ cs.flatten.length :=
  fun fuel cs => (readLoop_count hv fin fuel cs).1

/-- **pinned code, negation witnesses** (replayed on the implementation before the fix):
    a 7-byte fixed-length decoder delivers the 3 bytes left before EOF as a complete message … -/
theorem C08_pinned_truncated_frame :
    stepRead false (.fixed 7) [[1, 2, 3]] .eof = .msg [1, 2, 3] [] := by decide

/-- … and on the ended stream it delivers empty messages for as long as it is run -/
theorem C08_pinned_endless_empty_messages :
    readLoop false (.fixed 7) 50 [] .eof = (List.replicate 50 [], none) := by decide

/-- … a varint frame declaring 10 bytes followed by 2 bytes and EOF is delivered as "ab" -/
theorem C08_pinned_varint_truncated :
    stepRead false (.varint 64) [[10, 97, 98]] .eof = .msg [97, 98] [] := by decide

/-- the same inputs on the repaired code raise -/
example : stepRead true (.fixed 7) [[1, 2, 3]] .eof = .raise [] := by decide
example : stepRead true (.varint 64) [[10, 97, 98]] .eof = .raise [] := by decide
/-- adversarial headers: an 8-byte field of 0xff… (negative as int64) and a frame above max raise -/
example : stepRead true (.lf { big := true, max := 64, offset := 0, fieldLen := 8, adj := 0, strip := 0 })
    [[255, 255, 255, 255, 255, 255, 255, 255, 1]] .eof = .raise [[1]] := by decide
example : stepRead true (.lf { big := true, max := 64, offset := 0, fieldLen := 1, adj := 0, strip := 0 })
    [[200], [1, 2]] .eof = .raise [[1, 2]] := by decide
/-- an over-long varint (10 continuation bytes) raises -/
example : stepRead true (.varint 64) [List.replicate 11 128] .eof = .raise [[128]] := by decide

/-! ## the variable-length decoder (no framing: one message per transport read of at most `max` bytes) -/

/-- whatever the fragments of the stream are, every delivered message respects the configured
    maximum; with `max > 0` and a transport that never returns empty reads no message is empty
    (so the loop consumes input at every step), and what has been delivered is always a prefix of
    the stream: nothing lost, duplicated, reordered or invented -/
theorem C08_variable_length_bounded (max fuel : Nat) (cs : List VarLen.Bytes) :
    (∀ m ∈ VarLen.run max fuel cs, m.length ≤ max) ∧
    (∃ tail, (VarLen.run max fuel cs).flatten ++ tail = cs.flatten) :=
  ⟨VarLen.run_bounded max fuel cs, VarLen.run_prefix max fuel cs⟩

theorem C08_variable_length_progress (max : Nat) (hmax : 0 < max) (cs : List VarLen.Bytes) (hne : ∀ c ∈ cs, c ≠ [])
    (m : VarLen.Bytes) (rest : List VarLen.Bytes) (h : VarLen.step max cs = .msg m rest) :
    m ≠ [] ∧ (∀ c ∈ rest, c ≠ []) := by
  obtain ⟨c, cs', rfl, rfl, rfl⟩ := VarLen.step_msg h
  refine ⟨by simp [List.take_eq_nil_iff, hne c, Nat.ne_of_gt hmax], fun x hx => ?_⟩
  split at hx
  · exact hne x (List.mem_cons_of_mem _ hx)
  · rcases List.mem_cons.1 hx with rfl | hx
    · simpa [List.drop_eq_nil_iff] using ‹¬ c.length ≤ max›
    · exact hne x (List.mem_cons_of_mem _ hx)

example : VarLen.run 3 10 [[1, 2, 3, 4, 5], [6]] = [[1, 2, 3], [4, 5], [6]] := by decide

/-! ### The decoders' guards as the code states them (T3: `Gen/Guards.lean`, regenerated on every run) -/
section Guards
open NettyVerif.Guards

/-- lengthFieldCodec.HandleRead, from the header read to its last guard: the extracted statements
    are the expected ones, and executed under Go's 64-bit semantics on a completely read header they
    raise exactly when `lfFrameLength` (the guards of the model's `decodeLF`) refuses, and compute the
    same adjusted frame length — for every valid configuration and every value of the length field;
    `decodeLF` is exactly: read the header, apply `lfFrameLength`, strip. -/
theorem C08_guards_lf_read :
    guardsOf Gen.Guards.lengthFieldCodec_HandleRead = guardsOf expLFReadGuards ++ guardsOf expLFReadRest ∧
    (∀ (c : LFCfg) (env : Env), LFEnv c env → c.valid = true → I64 c.max → I64 c.strip →
      (env.var "n" = env.len "headerBuffer" ∧ env.var "nil" = env.var "err") →
      ∀ fl0 : Int, env.opq unpackCall = fl0 →
      (run (guardsOf expLFReadGuards) env).map (fun e => e.var "frameLength") = lfFrameLength c fl0) ∧
    (∀ (c : LFCfg) (cs : List Bytes) (fin : RErr) (hdr : Bytes) (rest : List Bytes),
      readFull cs fin (c.offset + c.fieldLen).toNat = (.ok hdr, rest) →
      lfFrameLength c (wrap64 ((unpack c.big (hdr.drop c.offset.toNat) : Nat) : Int)) = none →
      decodeLF c cs fin = .raise rest) := by
  refine ⟨rfl, ?_, ?_⟩
  · rintro c env ⟨h1, h2, h3, h4, h5⟩ hv hm hs ⟨hn, hnil⟩ fl0 hfl
    unfold I64 at hm
    have hend : wrap64 (c.offset + c.fieldLen) = c.offset + c.fieldLen := by
      have := LFCfg.valid_bounds hv; exact wrap64_id ⟨by omega, by omega⟩
    rw [← run_guardsOf]
    simp [expLFReadGuards, h1, h2, h3, h4, h5, hn, hnil, hfl, hend, wrap64_id hm, wrap64_id hs,
      wrap64_idem, lfFrameLength, apply_ite (Option.map fun e : Env => e.var "frameLength")]
  · intro c cs fin hdr rest hr hn
    rw [decodeLF_guards, hr]
    simp only [hn]

/-- the varint decoder refuses exactly the declared lengths above the maximum (`decodeVarint`); the source
    compares against `uint64(maxFrameLength)`, which is why 2^64 appears: under `hm` the conversion is the identity -/
theorem C08_guards_varint_read (max v : Int) (env : Env) (hm : 0 < max ∧ max < 2^63)
    (h1 : env.var "maxFrameLength" = max) (h2 : env.var "frameLength" = v) (h3 : env.opq "err" = 0) :
    (run Gen.Guards.varintLengthFieldCodec_HandleRead env).isSome = !decide (v > max) := by
  rw [run_congr Gen.Guards.varintLengthFieldCodec_HandleRead expVarintHandleRead rfl]
  simp [expVarintHandleRead, h1, h2, h3, show max % 18446744073709551616 = max by omega]      -- 2^64

/-- the constructors of the fixed-length, delimiter, varint and variable-length codecs accept
    exactly what `Codec.valid` (and `VarLen`'s `0 < max`) require -/
theorem C08_guards_constructors (v : Int) (d : Bytes) (s : Bool) (env : Env) :
    (env.var "length" = v → (run Gen.Guards.FixedLengthCodec env).isSome = (Codec.fixed v).valid) ∧
    (env.var "maxFrameLength" = v → (run Gen.Guards.VarintLengthFieldCodec env).isSome = (Codec.varint v).valid) ∧
    (env.var "maxReadLength" = v → (run Gen.Guards.VariableLengthCodec env).isSome = decide (v > 0)) ∧
    (env.var "maxFrameLength" = v → env.len "delimiter" = d.length →
      (run Gen.Guards.DelimiterCodec env).isSome = (Codec.delim d v s).valid) := by
  refine ⟨fun h => ?_, fun h => ?_, fun h => ?_, fun h1 h2 => ?_⟩
  · rw [run_congr Gen.Guards.FixedLengthCodec (expPositive "length") rfl]
    apply Bool.eq_iff_iff.2
    simp [expPositive, Codec.valid, h]
  · rw [run_congr Gen.Guards.VarintLengthFieldCodec (expPositive "maxFrameLength") rfl]
    apply Bool.eq_iff_iff.2
    simp [expPositive, Codec.valid, h]
  · rw [run_congr Gen.Guards.VariableLengthCodec (expPositive "maxReadLength") rfl]
    apply Bool.eq_iff_iff.2
    simp [expPositive, h]
  · rw [run_congr Gen.Guards.DelimiterCodec expDelimiterCodec rfl]
    apply Bool.eq_iff_iff.2
    simp [expDelimiterCodec, Codec.valid, h1, h2]

/-- `exactReader.Read` as the source states it (extracted on every run) makes the four decisions of the
    call-level model `ExactR.read`: early `(0, io.EOF)` iff the counter is not positive; the buffer is
    shortened iff it is longer than the counter; the counter goes down by what the underlying Read
    returned; `io.EOF` becomes `io.ErrUnexpectedEOF` iff the counter is still positive (`.drop 3` skips the
    early return, the shortening and the underlying Read: what follows them is run) -/
theorem C08_guards_exact_reader (n : Int) (plen : Nat) (env : Env)
    (h1 : env.var "e.n" = n) (h2 : env.len "p" = plen) (hp : (plen : Int) < 2^63) :
    Gen.Guards.exactReader_Read = expExactRead ∧
    (GE.eval env (.bin "<=" (.var "e.n") (.lit 0)) ≠ 0 ↔ n ≤ 0) ∧
    (GE.eval env (.bin ">" (.conv "int64" (.len "p")) (.var "e.n")) ≠ 0 ↔ (plen : Int) > n) ∧
    (∀ (k errc eofc ueofc : Int) (env' : Env), env'.var "e.n" = n → env'.var "n" = k → env'.var "err" = errc →
      env'.opq "io.EOF" = eofc → env'.opq "io.ErrUnexpectedEOF" = ueofc → I64 k → I64 (n - k) →
      (run (Gen.Guards.exactReader_Read.drop 3) env').map (fun e => (e.var "e.n", e.var "err")) =
        some (n - k, if errc = eofc ∧ n - k > 0 then ueofc else errc)) := by
  refine ⟨rfl, by simp [h1], by simp [h1, h2, wrap64_id (x := plen) ⟨by omega, hp⟩], ?_⟩
  intro k errc eofc ueofc env' e1 e2 e3 e4 e5 hk hnk
  simp [Gen.Guards.exactReader_Read, e1, e2, e3, e4, e5, wrap64_id hk, wrap64_id hnk]
  split <;> simp_all <;> omega

-- the guards bite: a length field of 2000 against a maximum of 1024 is refused, 10 is accepted
example : lfFrameLength { big := true, max := 1024, offset := 0, fieldLen := 2, adj := 0, strip := 0 } 2000 = none := by decide
example : lfFrameLength { big := true, max := 1024, offset := 0, fieldLen := 2, adj := 0, strip := 0 } 10 = some 12 := by decide

end Guards

/-! ### The exact-length reader, call by call (`Model/ExactReader.lean`, utils/reader.go)

`drainExact` summarises a frame body as "the next `lim` bytes, or an error". The reader object behind
it is modelled one `Read` at a time, and the summary's content is proved for every consumer: -/
section ExactReader
open NettyVerif.ExactR

/-- **no consumer can get a truncated frame out of the exact reader as if it were complete**: for
    every declared length `n`, every stream and fragmentation, every end-of-stream kind and every
    sequence of buffer sizes (zero-length buffers included), what the consumer has when it stops is a
    prefix of the stream of at most `n` bytes, nothing is lost or skipped (delivered ++ rest = stream),
    and if what stopped it was a clean `io.EOF` it has exactly `n` bytes -/
theorem C08_exact_reader_call_by_call (fin : RErr) (sizes : List Nat) (n : Nat) (cs : List Bytes) :
    let r := consume read fin sizes [] (n : Int) cs
    r.1 ++ r.2.2.1.flatten = cs.flatten ∧ r.1.length ≤ n ∧ (r.2.2.2 = some .eof → r.1.length = n) := by
  obtain ⟨h1, h2, h3, h4⟩ := consume_spec fin sizes [] (n : Int) cs (by omega)
  simp only [List.nil_append, List.length_nil] at h1 h2
  refine ⟨h1, by omega, fun he => ?_⟩
  have := h4 _ he
  simp only [if_true] at this
  omega

/-- **the call-level reader refines the frame-level summary**: whenever a consumer's loop over the exact
    reader is ended by an error — with whatever buffer sizes it read — the outcome is the one `drainExact`
    (the frame body of `Model/Frame.lean`, on which every C04 / C08 decoder theorem rests) states: a clean
    end with exactly the first `n` bytes, or the premature-end error; and the source is left at the same
    position -/
theorem C08_exact_reader_refines_frame_model (fin : RErr) (sizes : List Nat) (n : Nat) (cs : List Bytes)
    (d : Bytes) (n' : Int) (rest : List Bytes) (e : RErr)
    (h : consume read fin sizes [] (n : Int) cs = (d, n', rest, some e)) :
    (drainExact { pre := [], lim := n } cs fin).1 = (if e = .eof then .msg d else .raise e) ∧
    (drainExact { pre := [], lim := n } cs fin).2.flatten = rest.flatten := by
  have inv := consume_spec fin sizes [] (n : Int) cs (by omega)
  simp only [h, List.nil_append, List.length_nil, Option.some.injEq, forall_eq'] at inv
  obtain ⟨i1, i2, _, i4⟩ := inv
  rw [drainExact_eq, readN_snd, ← i1]
  split at i4
  · -- a clean end: the counter is at zero, so `d` is exactly `n` bytes
    rw [if_pos (by simp; omega), if_pos ‹_›, show n = d.length by omega]
    simp
  · -- premature end: the source is exhausted with fewer than `n` bytes delivered
    obtain ⟨rfl, _, he⟩ := i4
    rw [if_neg (by simp; omega), if_neg ‹¬ e = .eof›, List.drop_of_length_le (by simp; omega), ← he]
    simp

/-- … and such a consumer always gets there: reading with non-empty buffers, it is stopped by an error after
    at most (chunks + bytes of the source) successful calls, with the outcome `drainExact` states — the
    frame-level summary is exactly what draining the reader object yields -/
theorem C08_exact_reader_drains_to_frame_model (fin : RErr) (sizes : List Nat) (n : Nat) (cs : List Bytes)
    (hpos : ∀ p ∈ sizes, 0 < p) (hlen : cs.length + cs.flatten.length < sizes.length) :
    ∃ d n' rest e, consume read fin sizes [] (n : Int) cs = (d, n', rest, some e) ∧
      (drainExact { pre := [], lim := n } cs fin).1 = (if e = .eof then .msg d else .raise e) ∧
      (drainExact { pre := [], lim := n } cs fin).2.flatten = rest.flatten := by
  have ht := consume_terminates fin sizes [] (n : Int) cs hpos hlen
  cases hc : consume read fin sizes [] (n : Int) cs with
  | mk d r1 =>
    obtain ⟨n', rest, oe⟩ := r1
    cases oe with
    | none => rw [hc] at ht; exact absurd rfl ht
    | some e => exact ⟨d, n', rest, e, rfl, C08_exact_reader_refines_frame_model fin sizes n cs d n' rest e hc⟩

/-- the pinned reader (io.LimitReader): 2 bytes of a frame declared as 10, then a clean end -/
theorem C08_exact_reader_pinned_truncates :
    consume readPinned .eof [8, 8, 8] [] 10 [[97, 98]] = ([97, 98], 8, [], some .eof) := by decide

-- the repaired reader on the same input: ErrUnexpectedEOF
example : consume read .eof [8, 8, 8] [] 10 [[97, 98]] = ([97, 98], 8, [], some .unexpectedEOF) := by decide
-- a complete frame read in pieces, through a zero-length buffer and across chunks: clean end after exactly 5 bytes
example : consume read .eof [2, 0, 8, 8, 8] [] 5 [[1, 2, 3], [4, 5, 6]] = ([1, 2, 3, 4, 5], 0, [[6]], some .eof) := by decide

end ExactReader

end NettyVerif.C08

#print axioms NettyVerif.C08.C08_variable_length_bounded
#print axioms NettyVerif.C08.C08_variable_length_progress
#print axioms NettyVerif.C08.C08_delivered_frames_complete
#print axioms NettyVerif.C08.C08_fixed_exact
#print axioms NettyVerif.C08.C08_eof_raises
#print axioms NettyVerif.C08.C08_loop_terminates
#print axioms NettyVerif.C08.C08_no_phantom_messages
#print axioms NettyVerif.C08.C08_pinned_truncated_frame
#print axioms NettyVerif.C08.C08_pinned_endless_empty_messages
#print axioms NettyVerif.C08.C08_pinned_varint_truncated
#print axioms NettyVerif.C08.C08_guards_lf_read
#print axioms NettyVerif.C08.C08_guards_varint_read
#print axioms NettyVerif.C08.C08_guards_constructors
#print axioms NettyVerif.C08.C08_exact_reader_call_by_call
#print axioms NettyVerif.C08.C08_exact_reader_pinned_truncates
#print axioms NettyVerif.C08.C08_exact_reader_refines_frame_model
#print axioms NettyVerif.C08.C08_guards_exact_reader
#print axioms NettyVerif.C08.C08_exact_reader_drains_to_frame_model
