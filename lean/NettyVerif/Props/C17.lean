import NettyVerif.Gen.Routing
import NettyVerif.Base.Chunks
/-! # C17 — Transport wrappers preserve the byte stream for every buffering configuration

Meta-theorems over the routing-table model (Model/Transport.lean) for every buffer size and every
sequence of Write/Writev/Flush resp. Read sizes, plus the `decide`d fact that the table extracted
from transport/buffered.go on this run satisfies their premise (tie T3). -/
namespace NettyVerif.C17
open NettyVerif.Transport

/-- writer `b`, whose Write and Writev calls go to sink `s`, has been given `w` so far: what reached the connection
    followed by what is still buffered spells `w`, and nothing is buffered if `s` bypasses the buffer -/
structure Sent (s : Sink) (b : BW) (w : Bytes) : Prop where
  stream : b.conn ++ b.pend = w
  clean : s ≠ .bufw → b.pend = []

theorem write_stream (b : BW) (p : Bytes) : (b.write p).conn ++ (b.write p).pend = b.conn ++ b.pend ++ p := by
  unfold BW.write
  split
  · simp
  · split
    · rename_i h; simp [h]
    · simp only
      split <;> simp [List.take_append_drop]

theorem Sent.write {s : Sink} {b : BW} {w : Bytes} (h : Sent s b w) (p : Bytes) : Sent s (routeWrite s b p) (w ++ p) := by
  cases s
  case bufw => exact ⟨h.stream ▸ write_stream b p, fun h => absurd rfl h⟩
  all_goals exact ⟨by simp [routeWrite, BW.direct, ← h.stream, h.clean], fun _ => h.clean (by simp)⟩

theorem Sent.writev {s : Sink} : ∀ (ps : List Bytes) {b : BW} {w : Bytes}, Sent s b w →
    Sent s (ps.foldl (routeWrite s) b) (w ++ ps.flatten)
  | [], _, _, h => by simpa using h
  | p :: ps, _, _, h => by simpa using Sent.writev ps (h.write p)

/-- where Flush goes does not matter for the order -/
theorem Sent.op {r : Route} (hw : r.writev = r.write) {b : BW} {w : Bytes} (h : Sent r.write b w) (o : Op) :
    Sent r.write (step r b o) (w ++ written [o]) := by
  cases o with
  | write p => simpa [step, written] using h.write p
  | writev ps => simpa [step, written, hw] using h.writev ps
  | flush =>
    simp only [step, written, List.append_nil]
    split
    · exact ⟨by simp [BW.flush, h.stream], fun _ => rfl⟩
    · exact h

/-- the stream is preserved as soon as Write and Writev share a sink and nothing is buffered when that sink
    bypasses the buffer -/
theorem Sent.ops {r : Route} (hw : r.writev = r.write) : ∀ (ops : List Op) {b : BW} {w : Bytes}, Sent r.write b w →
    Sent r.write (run r b ops) (w ++ written ops)
  | [], _, _, h => by simpa [run, written] using h
  | o :: ops, _, _, h => by
    have := Sent.ops hw ops (h.op hw o)
    cases o <;> simpa [run, written] using this

theorem good_iff {r : Route} : r.good = true ↔
    r.writev = r.write ∧ (r.write = .bufw ∧ r.flush = .bufw ∨ r.write = .conn ∧ (r.flush = .noop ∨ r.flush = .bufw)) := by
  simp only [Route.good, Bool.or_eq_true, Bool.and_eq_true, beq_iff_eq]
  constructor
  · rintro (⟨⟨h1, h2⟩, h3⟩ | ⟨⟨h1, h2⟩, h3⟩) <;> simp [h1, h2, h3]
  · rintro ⟨h1, ⟨h2, h3⟩ | ⟨h2, h3⟩⟩ <;> simp [h1, h2, h3]

/-- **write side**: for every well-routed variant, every buffer size and every sequence of
    Write/Writev/Flush, the bytes on the connection followed by the still-buffered bytes are exactly
    everything written, in call order — buffered and vectored writes are never reordered -/
theorem C17_write_stream (r : Route) (hg : r.good = true) : ∀ (ops : List Op) (b : BW), (r.write = .conn → b.pend = []) →
    (run r b ops).conn ++ (run r b ops).pend = b.conn ++ b.pend ++ written ops ∧
    (r.write = .conn → (run r b ops).pend = []) := by
  obtain ⟨hw, hs⟩ := good_iff.1 hg
  have hc : r.write ≠ .bufw ↔ r.write = .conn := by rcases hs with ⟨h, _⟩ | ⟨h, _⟩ <;> simp [h]
  intro ops b hb
  have := Sent.ops hw ops ⟨rfl, fun h => hb (hc.1 h)⟩
  exact ⟨this.stream, fun h => this.clean (hc.2 h)⟩

/-- … hence once Flush has returned the peer has received exactly the written bytes -/
theorem C17_after_flush (r : Route) (hg : r.good = true) (ops : List Op) (size : Nat) :
    (run r { size := size } (ops ++ [.flush])).conn = written ops := by
  obtain ⟨h1, h2⟩ := C17_write_stream r hg ops { size := size } (fun _ => rfl)
  obtain ⟨-, ⟨hw, hf⟩ | ⟨hw, hf⟩⟩ := good_iff.1 hg
  · simpa [run, List.foldl_append, step, hf, BW.flush] using h1
  · have hp : (ops.foldl (step r) _).pend = [] := h2 hw
    rcases hf with hf | hf <;> simpa [run, List.foldl_append, step, hf, BW.flush, hp] using h1

theorem connRead_flatten : ∀ (cs : List Bytes) (k : Nat), (connRead cs k).1 ++ (connRead cs k).2.flatten = cs.flatten
  | [], _ => rfl
  | [] :: cs, k => by simpa [connRead] using connRead_flatten cs k
  | (b :: c) :: cs, k => take_rest_flatten (b :: c) cs k

theorem readDirect_remaining (r : BR) (k : Nat) : (r.readDirect k).1 ++ (r.readDirect k).2.remaining = r.remaining := by
  by_cases hb : r.buf = [] <;> simp [BR.readDirect, BR.remaining, hb, connRead_flatten, ← List.append_assoc]

theorem read_remaining (r : BR) (k : Nat) : (r.read k).1 ++ (r.read k).2.remaining = r.remaining := by
  by_cases hb : r.buf = [] <;> simp only [BR.read, BR.remaining, hb, ne_eq, not_true, not_false_iff, ite_true, ite_false]
  · split <;> simp [← List.append_assoc, connRead_flatten]
  · simp [← List.append_assoc]

/-- **read side**: every Read returns the next bytes of the peer's stream, whatever the
    fragmentation, the buffer size and the caller's buffer sizes; nothing is skipped or reordered -/
theorem C17_read_stream (s : Sink) : ∀ (ks : List Nat) (r : BR),
    (readAll s r ks).1 ++ (readAll s r ks).2.remaining = r.remaining
  | [], r => by simp [readAll]
  | k :: ks, r => by
    have h1 : (routeRead s r k).1 ++ (routeRead s r k).2.remaining = r.remaining := by
      cases s <;> simp only [routeRead, read_remaining, readDirect_remaining]
    simp only [readAll, List.append_assoc]
    rw [C17_read_stream s ks, h1]

/-- **tie T3**: the routing table extracted from transport/buffered.go on this run is well routed,
    reads go through the buffered reader exactly in the read-buffered variants, and NewTransport
    selects the variants by (readSize > 0, writeSize > 0) -/
theorem C17_routing_extracted_ok :
    Gen.Routing.routes.all Route.good = true ∧
    Gen.Routing.routes.map (fun r => (r.name, r.read)) =
      [("bufConn", .bufr), ("bufReadConn", .bufr), ("bufWriteConn", .conn), ("rawConn", .conn)] ∧
    Gen.Routing.routes.map (fun r => (r.name, r.write)) =
      [("bufConn", .bufw), ("bufReadConn", .conn), ("bufWriteConn", .bufw), ("rawConn", .conn)] ∧
    Gen.Routing.ctor = [("readSize>0&&writeSize>0", "bufConn"), ("readSize>0", "bufReadConn"),
      ("writeSize>0", "bufWriteConn"), ("default", "rawConn")] := by
  decide

theorem routes_good {r : Route} (hr : r ∈ Gen.Routing.routes) : r.good = true :=
  List.all_eq_true.1 C17_routing_extracted_ok.1 r hr

/-- negation witness: a variant whose Writev bypasses the buffered writer reorders the stream -/
example : (run { name := "mutant", read := .conn, write := .bufw, writev := .conn, flush := .bufw } { size := 8 }
    [.write [1, 2], .writev [[3, 4]], .flush]).conn = [3, 4, 1, 2] := by decide
example : (run { name := "bufWriteConn", read := .conn, write := .bufw, writev := .bufw, flush := .bufw } { size := 3 }
    [.write [1, 2], .writev [[3, 4], [5, 6, 7, 8, 9]], .flush]).conn = [1, 2, 3, 4, 5, 6, 7, 8, 9] := by decide

end NettyVerif.C17

#print axioms NettyVerif.C17.C17_write_stream
#print axioms NettyVerif.C17.C17_after_flush
#print axioms NettyVerif.C17.C17_read_stream
#print axioms NettyVerif.C17.C17_routing_extracted_ok
