import NettyVerif.Proofs.PipelineOps
/-! # C03 — Pipeline order and event routing match the handler-list model

The concrete model (Model/Pipeline.lean) is the pointer structure of
pipeline.go/context.go: `next` and `prev` links updated separately, a size counter, loops that
walk the links. The specification is a plain `List Handler` between a fixed head and tail.
`Refines p addrs s` says pipe `p`, whose user contexts are at addresses `addrs`, represents `s`
(both link directions spell head :: addrs ++ [tail], size agrees, handlers agree). -/
namespace NettyVerif.C03
open NettyVerif.Pipeline

/-- every building operation refines its list specification: AddFirst prepends (reversing a
    multi-handler call, as the code does), AddLast appends, AddHandler inserts after position `pos`
    (-1 and size-1 append); inadmissible handlers and positions ≥ size panic and change nothing. -/
theorem C03_build_step (p : Pipe) (addrs : List Nat) (s : Spec) (o : BuildOp) (hr : Refines p addrs s) :
    match applyS s o with
    | none => applyC p o = .panic
    | some s' => ∃ p' addrs', applyC p o = .ok p' ∧ Refines p' addrs' s' := by
  cases o with
  | addFirst hs => exact addFirst_refines hs hr
  | addLast hs => exact addLast_refines hs hr
  | addHandler pos hs => exact addHandler_refines pos hs hr

/-- **after any sequence of AddFirst/AddLast/AddHandler calls** (any length, any positions, multi-
    handler calls, repeated instances, failing calls in between) the pointer structure represents
    exactly the list the operations define -/
theorem C03_build : ∀ (ops : List BuildOp) (p : Pipe) (addrs : List Nat) (s : Spec), Refines p addrs s →
    ∃ addrs', Refines (runC p ops) addrs' (runS s ops)
  | [], p, addrs, s, hr => ⟨addrs, hr⟩
  | o :: ops, p, addrs, s, hr => by
    have h := C03_build_step p addrs s o hr
    split at h <;> rename_i hs
    · simp only [runC, runS, hs, h]; exact C03_build ops p addrs s hr
    · obtain ⟨p', addrs', hc, hr'⟩ := h
      simp only [runC, runS, hs, hc]; exact C03_build ops p' addrs' _ hr'

theorem C03_build_from_new (ops : List BuildOp) : ∃ addrs, Refines (runC newPipe ops) addrs (runS [] ops) :=
  C03_build ops newPipe [] [] refines_new

/-- Size, IndexOf (from the head), LastIndexOf (from the tail, counting down from size-1) and
    ContextAt agree with the list, from both ends -/
theorem C03_queries {p : Pipe} {addrs : List Nat} {s : Spec} (hr : Refines p addrs s) :
    p.size = s.length + 2 ∧
    (∀ pred, indexOf p pred = s.indexOf pred) ∧
    (∀ pred, lastIndexOf p pred = s.lastIndexOf pred) ∧
    (∀ pos : Int, (pos = -1 ∨ pos ≥ (s.length : Int) + 2 → contextAt p pos = .ok none) ∧
      (¬ (pos = -1 ∨ pos ≥ (s.length : Int) + 2) →
        ∃ a, contextAt p pos = .ok (some a) ∧ (headA :: addrs ++ [tailA])[pos.toNat]? = some a ∧
          s.all[pos.toNat]? = some (p.hdl a))) :=
  ⟨hr.size, indexOf_refines hr, lastIndexOf_refines hr, contextAt_refines hr⟩

/-- both link directions spell the same list: forward chain from head = reverse of backward chain -/
theorem C03_both_directions {p : Pipe} {addrs : List Nat} {s : Spec} (hr : Refines p addrs s) :
    Path p.next headA (headA :: addrs ++ [tailA]) tailA ∧
    Path p.prev tailA (headA :: addrs ++ [tailA]).reverse headA ∧
    (headA :: addrs ++ [tailA]).map p.hdl = s.all :=
  ⟨hr.wf.fwd, hr.wf.bwd, hr.all⟩

/-- **routing**: an event of kind `k` delivered from the context at position `i` — `ctx.HandleX`
    forwarding, `ctx.Write`, `ctx.Trigger` — invokes exactly the contexts at the positions computed by
    the list specification (implementers of the matching interface reached by forwarding; towards the
    tail for the five inbound kinds, towards the head for writes), each with the context of its own
    position, and ends the same way (stopped / dropped / written to the channel by the head /
    channel closed by the tail). -/
theorem C03_routing {p : Pipe} {addrs : List Nat} {s : Spec} (hr : Refines p addrs s) (k : Kind) (i : Nat)
    (hi : i < s.length + 2) :
    deliver p k (p.fresh + 1) ((headA :: addrs ++ [tailA]).getD i 0) =
      ((s.deliver k i).1.map (fun j => (headA :: addrs ++ [tailA]).getD j 0), (s.deliver k i).2) :=
  route_refines hr k i hi

/-- pipeline.Fire*: inbound events enter at the head (position 0), writes at the tail -/
theorem C03_fire {p : Pipe} {addrs : List Nat} {s : Spec} (hr : Refines p addrs s) (k : Kind) :
    fire p k =
      ((s.deliver k (if k = .write then s.length + 1 else 0)).1.map (fun j => (headA :: addrs ++ [tailA]).getD j 0),
       (s.deliver k (if k = .write then s.length + 1 else 0)).2) := by
  rw [← route_refines hr k _ (by split <;> omega), fire]
  split <;> simp [List.getD, ← hr.length]

/-- non-vacuity / sanity of the specification on a concrete pipeline:
    handlers 10 (inbound+outbound, forwards), 11 (inbound only, forwards), 12 (outbound+exception, stops) -/
def hA : Handler := { id := 10, impl := 6, fwd := 6 }
def hB : Handler := { id := 11, impl := 2, fwd := 2 }
def hC : Handler := { id := 12, impl := 12, fwd := 0 }
def demoOps : List BuildOp := [.addLast [hA, hC], .addHandler 1 [hB], .addHandler 9 [hB], .addFirst []]

example : runS [] demoOps = [hA, hB, hC] := by decide
example : ∃ addrs, Refines (runC newPipe demoOps) addrs [hA, hB, hC] := by
  have := C03_build_from_new demoOps
  rwa [show runS [] demoOps = [hA, hB, hC] by decide] at this
-- a read visits positions 1 (hA) and 2 (hB) and then falls off the end; a write from the tail stops at hC; a write from
-- hC's position visits hA and the head: channel write; an exception from hC's position reaches the tail: close
example : Spec.deliver [hA, hB, hC] .read 0 = ([1, 2], .dropped) := by decide
example : Spec.deliver [hA, hB, hC] .write 4 = ([3], .stopped) := by decide
example : Spec.deliver [hA, hB, hC] .write 3 = ([1, 0], .chanWrite) := by decide
example : Spec.deliver [hA, hB, hC] .exception 3 = ([4], .close) := by decide

end NettyVerif.C03

#print axioms NettyVerif.C03.C03_build_step
#print axioms NettyVerif.C03.C03_build
#print axioms NettyVerif.C03.C03_build_from_new
#print axioms NettyVerif.C03.C03_queries
#print axioms NettyVerif.C03.C03_both_directions
#print axioms NettyVerif.C03.C03_routing
#print axioms NettyVerif.C03.C03_fire
