import NettyVerif.Proofs.Frame
import NettyVerif.Proofs.Guards
import NettyVerif.Props.C17
import NettyVerif.Props.C02
/-! # C04 — Frame codecs round-trip or reject; boundaries exact under any fragmentation

Model: Model/Frame.lean (the codecs of codec/frame/*.go over a chunked
transport source; every `cs : List Bytes` is one fragmentation of the byte stream
`cs.flatten`, so `∀ cs, cs.flatten = … → …` quantifies over all fragmentations). -/
namespace NettyVerif.C04
open NettyVerif.Frame
open NettyVerif.Guards (lfFrameLength lfFrameLength_eq_some)

/-- **fragmentation independence** of the one primitive every decoder reads through: any two
    chunkings of the same byte stream yield the same data and leave the same remaining stream -/
theorem C04_fragmentation_independent (cs cs' : List Bytes) (k : Nat) (h : cs.flatten = cs'.flatten) :
    (readN cs k).1 = (readN cs' k).1 ∧ (readN cs k).2.flatten = (readN cs' k).2.flatten := by
  simp only [readN_fst, readN_snd, h, and_self]

/-- **encoder soundness** (repaired prepender, also the encoder built into LengthFieldCodec): it
    either raises or emits `header ++ body` where the header, read the way the decoder reads it,
    is exactly the configured length value, which fits the field -/
theorem C04_encoder_sound (pc : PrepCfg) (hfl : pc.fieldLen = 1 ∨ pc.fieldLen = 2 ∨ pc.fieldLen = 4 ∨ pc.fieldLen = 8)
    (body enc : Bytes) (h : encodePrep pc body = some enc) :
    ∃ L : Int, L = body.length + pc.adj + (if pc.incl then pc.fieldLen else 0) ∧ 0 ≤ L ∧ L ≤ fieldMax pc.fieldLen ∧
      enc = pack pc.big pc.fieldLen.toNat L.toNat ++ body ∧
      (unpack pc.big (enc.take pc.fieldLen.toNat) : Int) = L := by
  obtain ⟨L, hL, h0, hm, rfl⟩ := encodePrep_some h
  refine ⟨L, hL, h0, hm, rfl, ?_⟩
  rw [List.take_left' (pack_length ..), unpack_pack _ (fieldMax_lt hfl hm).1, Int.toNat_of_nonneg h0]

/-- pinned code (negation witness, replayed on the implementation by the harness before the fix):
    a 300-byte body with a 1-byte big-endian field is emitted with header 44 = 300 mod 256 -/
theorem C04_encoder_pinned_unsound :
    (encodePrepPinned { big := true, fieldLen := 1, adj := 0, incl := false } (List.replicate 300 0)).head? = some 44 := by
  decide +kernel

/-- length-field round trip, one frame: the built-in encoder or a stand-alone prepender paired with
    the matching decoder parameters (`adjD + adjP + (incl ? fieldLen : 0) = 0`, offset 0); the bound
    `max < 2^62` keeps every two-term sum of `lfFrameLength` inside int64, so that each `wrap64` is the identity -/
theorem C04_lf_roundtrip (c : LFCfg) (pc : PrepCfg) (body enc tail : Bytes) (cs : List Bytes) (fin : RErr)
    (hv : c.valid = true) (hoff : c.offset = 0) (hbig : pc.big = c.big) (hfl : pc.fieldLen = c.fieldLen)
    (hadj : -(2^62) < c.adj ∧ c.adj < 2^62) (hmax62 : c.max < 2^62)
    (hpair : c.adj + pc.adj + (if pc.incl then c.fieldLen else 0) = 0)
    (henc : encodePrep pc body = some enc)
    (hmax : c.fieldLen + body.length ≤ c.max) (hstrip : c.strip ≤ c.fieldLen + body.length)
    (hflat : cs.flatten = enc ++ tail) :
    ∃ rest, stepRead true (.lf c) cs fin = .msg (enc.drop c.strip.toNat) rest ∧ rest.flatten = tail := by
  have _ := hadj      -- not needed: `hpair` and the encoder's bound on the field confine `c.adj` already
  obtain ⟨hfls, _, _, _, _⟩ := LFCfg.valid_bounds hv
  obtain ⟨L, hL, hL0, hLm, rfl⟩ := encodePrep_some henc
  obtain ⟨hLlt, hL63⟩ := fieldMax_lt (hfl ▸ hfls) hLm
  have hhl := pack_length pc.big pc.fieldLen.toNat L.toNat
  have hup := unpack_pack pc.big hLlt
  generalize pack pc.big pc.fieldLen.toNat L.toNat = hdr at *
  rw [hfl] at hhl hL
  -- the guards accept the field: the frame is header and body
  have hg : lfFrameLength c (wrap64 (unpack c.big hdr : Nat)) = some (c.fieldLen + body.length) := by
    rw [← hbig, hup, lfFrameLength_eq_some, hoff, Int.zero_add, Int.toNat_of_nonneg hL0, wrap64_id ⟨by omega, hL63⟩,
      wrap64_id (x := c.adj + c.fieldLen) ⟨by omega, by omega⟩, wrap64_id ⟨by omega, by omega⟩]
    omega
  have hlen : (c.fieldLen + (body.length : Int)).toNat = (hdr ++ body).length := by rw [List.length_append, hhl]; omega
  have hS := hlen ▸ Int.toNat_le_toNat hstrip
  rw [stepRead_msg_iff]
  simp only [Codec.decode]
  rw [decodeLF_view hv, hflat, hoff, Int.zero_add, List.append_assoc, List.take_left' hhl, Int.toNat_zero, List.drop_zero,
    hg, Option.bind_some, hlen, ← List.append_assoc, List.length_append (bs := tail), if_pos (by omega), if_pos (by omega),
    List.drop_append_of_le_length hS, List.length_drop]

theorem C04_varint_roundtrip (max : Int) (body enc tail : Bytes) (cs : List Bytes) (fin : RErr)
    (hlen : body.length < 2^63) (henc : encodeVarint max body = some enc) (hflat : cs.flatten = enc ++ tail) :
    ∃ rest, stepRead true (.varint max) cs fin = .msg body rest ∧ rest.flatten = tail := by
  simp only [encodeVarint] at henc
  split at henc
  · cases henc
  · cases henc
    obtain ⟨r, hr, hrest⟩ := readUvarint_put body.length cs (body ++ tail) hlen (by rw [hflat, List.append_assoc])
    rw [stepRead_msg_iff]
    simp only [Codec.decode, decodeVarint, hr, Nat.mod_eq_of_lt (show body.length < 2^64 by omega)]
    rw [if_neg (by omega)]
    simp [Dec.view, hrest]

/-- delimiter: admissible = the first occurrence of the delimiter in `body ++ delim` ends at the
    end (stronger than "body does not contain it") and the frame fits the maximum -/
theorem C04_delim_roundtrip (delim : Bytes) (max : Int) (strip : Bool) (body tail : Bytes) (cs : List Bytes) (fin : RErr)
    (hadm : delimAdmissible delim body = true) (hmax : ((body ++ delim).length : Int) ≤ max)
    (hflat : cs.flatten = encodeDelim delim body ++ tail) :
    ∃ rest, stepRead true (.delim delim max strip) cs fin =
      .msg (if strip then body else body ++ delim) rest ∧ rest.flatten = tail := by
  simp only [delimAdmissible, Bool.and_eq_true, Bool.not_eq_true', List.all_eq_true, List.mem_range,
    Bool.or_eq_true, beq_iff_eq] at hadm
  obtain ⟨hne, hall⟩ := hadm
  obtain ⟨r, hs, hrest⟩ := scanDelim_ok delim.reverse max.toNat [] cs (body ++ delim) tail
    (by intro h; simp [List.append_eq_nil_iff.1 h] at hne) (by omega) hflat
    (fun j h0 hj => by simpa using (hall j hj).resolve_left (by omega)) (by simp)
  rw [stepRead_msg_iff]
  simp [Codec.decode, decodeDelim, hs, Dec.view, hrest]

theorem C04_fixed_roundtrip (n : Int) (body tail : Bytes) (cs : List Bytes) (fin : RErr)
    (hlen : body.length = n.toNat) (hflat : cs.flatten = body ++ tail) :
    ∃ rest, stepRead true (.fixed n) cs fin = .msg body rest ∧ rest.flatten = tail :=
  stepRead_msg_iff.2 (by simp [Codec.decode, decodeFixed, Dec.view, hflat, hlen])

/-- **whole streams**: for every list of admissible payloads and every fragmentation of the
    concatenated encodings, the read loop delivers exactly the payloads in order (each consuming
    exactly its frame) and then ends with the end-of-stream exception. Stated once, generically:
    `frames` pairs each wire frame with its expected message; the four codecs are instances. -/
theorem C04_stream (c : Codec) (hv : c.valid = true) (fin : RErr) (frames : List (Bytes × Bytes)) (cs : List Bytes)
    (hstep : ∀ fm ∈ frames, ∀ (cs : List Bytes) (tl : Bytes), cs.flatten = fm.1 ++ tl →
        ∃ rest, stepRead true c cs fin = .msg fm.2 rest ∧ rest.flatten = tl)
    (hflat : cs.flatten = (frames.map (·.1)).flatten) :
    ∃ rest, readLoop true c (frames.length + 1) cs fin = (frames.map (·.2), some rest) :=
  readLoop_frames hv fin (·.1) (·.2) frames cs hstep hflat

/-- instance: varint codec, any payload list, any fragmentation -/
theorem C04_stream_varint (max : Int) (hmax : max > 0) (fin : RErr) (ps : List Bytes) (cs : List Bytes)
    (hadm : ∀ p ∈ ps, (p.length : Int) ≤ max ∧ p.length < 2^63)
    (hflat : cs.flatten = (ps.map (fun p => putUvarint p.length ++ p)).flatten) :
    ∃ rest, readLoop true (.varint max) (ps.length + 1) cs fin = (ps, some rest) := by
  simpa using readLoop_frames (c := .varint max) (decide_eq_true hmax) fin _ id ps cs
    (fun p hp cs' tl hfl => C04_varint_roundtrip max p _ tl cs' fin (hadm p hp).2
      (by have := (hadm p hp).1; simp [encodeVarint]; omega) hfl) hflat

/-- instance: fixed-length codec -/
theorem C04_stream_fixed (n : Int) (hn : n > 0) (fin : RErr) (ps : List Bytes) (cs : List Bytes)
    (hadm : ∀ p ∈ ps, p.length = n.toNat) (hflat : cs.flatten = ps.flatten) :
    ∃ rest, readLoop true (.fixed n) (ps.length + 1) cs fin = (ps, some rest) := by
  simpa using readLoop_frames (c := .fixed n) (decide_eq_true hn) fin id id ps cs
    (fun p hp cs' tl hfl => C04_fixed_roundtrip n p tl cs' fin (hadm p hp) hfl) (by simpa using hflat)

/-- non-vacuity: concrete admissible inputs, fragmented inside header and delimiter -/
example : stepRead true (.lf { big := true, max := 64, offset := 0, fieldLen := 2, adj := 0, strip := 2 })
    [[0], [3, 97], [98, 99, 0], [1, 120]] .eof = .msg [97, 98, 99] [[0], [1, 120]] := by decide
example : delimAdmissible [97, 97] [120] = true ∧ delimAdmissible [97, 97] [120, 97] = false := by decide
example : stepRead true (.delim [13, 10] 16 true) [[104, 105, 13], [10, 106]] .eof = .msg [104, 105] [[106]] := by decide
example : encodePrep { big := false, fieldLen := 1, adj := 0, incl := false } (List.replicate 300 0) = none := by decide +kernel

/-! ### The guards as the code states them (T3: `Gen/Guards.lean` is regenerated from codec/frame/*.go on every run)

`Guards.run` executes the extracted statement list (assignments, `utils.AssertIf`, `utils.Assert`, in
source order) under Go's 64-bit integer semantics; `none` = the codec raises. The theorems below are
about the *generated* lists: a change of a guard, of its order or of the length arithmetic in the
source changes the list and the proof no longer checks. -/
section Guards
open NettyVerif.Guards

/-- the constructor of LengthFieldCodec accepts exactly the configurations the model calls valid -/
theorem C04_guards_lf_constructor (c : LFCfg) (env : Env) (he : LFEnv c env) (hm : I64 c.max) (hf : I64 c.fieldLen) :
    (run Gen.Guards.LengthFieldCodec env).isSome = c.valid := by
  obtain ⟨h1, h2, h3, _, h5⟩ := he
  unfold I64 at hm hf
  rw [run_congr Gen.Guards.LengthFieldCodec expLengthFieldCodec rfl]
  apply Bool.eq_iff_iff.2
  simp [expLengthFieldCodec, LFCfg.valid, h1, h2, h3, h5, and_assoc, or_assoc]
  -- the guards, in source order, are the conjuncts of `valid`; the last subtracts in 64 bits, but only once the others hold
  intro _ _ _ _
  rw [wrap64_id ⟨by omega, by omega⟩]

/-- packFieldLength raises exactly for the lengths the model's encoder refuses (negative, or
    beyond what a field of 1 / 2 / 4 / 8 bytes carries); `env.opq "default"` is the `default` arm of its
    switch over the width, extracted as an opaque guard, which does not fire for these four widths -/
theorem C04_guards_pack_field_length (fieldLen dataLen : Int) (env : Env)
    (hf : fieldLen = 1 ∨ fieldLen = 2 ∨ fieldLen = 4 ∨ fieldLen = 8) (hd : I64 dataLen)
    (h1 : env.var "fieldLen" = fieldLen) (h2 : env.var "dataLen" = dataLen) (h3 : env.opq "default" = 0) :
    (run Gen.Guards.packFieldLength env).isSome = !decide (dataLen < 0 ∨ dataLen > fieldMax fieldLen) := by
  unfold I64 at hd
  rw [run_congr Gen.Guards.packFieldLength expPackFieldLength rfl]
  rcases hf with rfl | rfl | rfl | rfl <;> simp [expPackFieldLength, fieldMax, h1, h2, h3] <;> omega

/-- the length the prepender writes into the field is body + adjustment (+ field width if asked),
    as in `encodePrep` (`ha`, `hb`: no 64-bit overflow assumed); its constructor accepts the four field widths only -/
theorem C04_guards_prepender (pc : PrepCfg) (n : Nat) (env : Env)
    (h1 : env.var "lengthAdjustment" = pc.adj) (h2 : env.var "lengthFieldLength" = pc.fieldLen)
    (h3 : env.var "lengthIncludesLengthFieldLength" = b2i pc.incl) (h4 : env.len "bodyBytes" = n)
    (ha : I64 (n + pc.adj)) (hb : I64 (n + pc.adj + pc.fieldLen)) :
    (run Gen.Guards.lengthFieldPrepender_HandleWrite env).map (fun e => e.var "length") =
        some ((n : Int) + pc.adj + (if pc.incl then pc.fieldLen else 0)) ∧
    guardsOf Gen.Guards.LengthFieldPrepender =
        [.assert (.lit 1) (.bin "&&" (.bin "&&" (.bin "&&" (.bin "!=" (.var "lengthFieldLength") (.lit 1)) (.bin "!=" (.var "lengthFieldLength") (.lit 2))) (.bin "!=" (.var "lengthFieldLength") (.lit 4))) (.bin "!=" (.var "lengthFieldLength") (.lit 8)))] := by
  refine ⟨?_, rfl⟩
  rw [run_congr Gen.Guards.lengthFieldPrepender_HandleWrite expPrepHandleWrite rfl]
  cases hi : pc.incl <;>
    simp [expPrepHandleWrite, h1, h2, h3, h4, hi, b2i, wrap64_id ha, wrap64_id hb]

/-- the varint encoder refuses exactly the bodies longer than the maximum (`encodeVarint`) -/
theorem C04_guards_varint_write (max : Int) (n : Nat) (env : Env)
    (h1 : env.var "maxFrameLength" = max) (h2 : env.len "bodyBytes" = n) :
    (run Gen.Guards.varintLengthFieldCodec_HandleWrite env).isSome = !decide ((n : Int) > max) := by
  rw [run_congr Gen.Guards.varintLengthFieldCodec_HandleWrite expVarintHandleWrite rfl]
  simp [expVarintHandleWrite, h1, h2]

-- premises satisfiable: a valid configuration with its environment
example : LFEnv { big := true, max := 1024, offset := 2, fieldLen := 2, adj := 0, strip := 4 }
    { var := fun n => if n = "maxFrameLength" then 1024 else if n = "lengthFieldOffset" then 2 else
                      if n = "lengthFieldLength" then 2 else if n = "lengthAdjustment" then 0 else
                      if n = "initialBytesToStrip" then 4 else 0, len := fun _ => 0, opq := fun _ => 0 } := by
  simp [LFEnv]

end Guards

/-! ### End to end: codec ∘ channel ∘ transport wrapper ∘ any fragmentation ∘ decoder

The three models compose through their observable interfaces only: what the encoder emits is what
the channel accepts (payload type `Bytes`), what the channel hands to the transport is what the
wrapper is given (`written ops`), what the wrapper passes to the connection is what the peer's decoder
reads, in whatever chunks. -/
section EndToEnd

theorem conn_is_accepted {sync cap untilW acts} {s : Chan.St Bytes}
    (hr : Chan.run (NettyVerif.C02.init sync cap untilW) acts = some s) (hb : s.broken = false) (hq : s.quiescent = true)
    {r : Transport.Route} (hroute : r ∈ Gen.Routing.routes) (size : Nat) {ops : List Transport.Op}
    (hops : Transport.written ops = s.wire.flatten) :
    (Transport.run r { size := size } (ops ++ [.flush])).conn = s.accepted.flatten := by
  rw [NettyVerif.C17.C17_after_flush r (NettyVerif.C17.routes_good hroute) ops size, hops,
    (NettyVerif.C02.C02_quiescent_clean sync cap untilW acts s hr hb hq).2.2.1]

/-- **end to end**: frames accepted by a channel (synchronous or queued, any capacity, any wait mode,
    any number of writers and any schedule: `acts` is any run of the Chan LTS) whose run has come to
    rest on a healthy transport, carried by any grouping of Write / Writev calls through any of the
    transport wrappers found in the current source and flushed, and read by the peer under *any*
    fragmentation, are decoded to exactly the messages, in acceptance order, each consuming exactly
    its frame; the loop then ends with the end-of-stream exception.
    (C02 quiescence ⇒ wire = accepted; C17 ⇒ connection = written; C04 ⇒ decoding is exact.) -/
theorem C04_end_to_end (c : Codec) (hv : c.valid = true) (fin : RErr) (frames : List (Bytes × Bytes))
    (hstep : ∀ fm ∈ frames, ∀ (cs : List Bytes) (tl : Bytes), cs.flatten = fm.1 ++ tl →
        ∃ rest, stepRead true c cs fin = .msg fm.2 rest ∧ rest.flatten = tl)
    (sync : Bool) (cap : Nat) (untilW : Bool) (acts : List (Chan.Act Bytes)) (s : Chan.St Bytes)
    (hr : Chan.run (NettyVerif.C02.init sync cap untilW) acts = some s)
    (hb : s.broken = false) (hq : s.quiescent = true)
    (hacc : s.accepted = frames.map (·.1))
    (r : Transport.Route) (hroute : r ∈ Gen.Routing.routes) (size : Nat) (ops : List Transport.Op)
    (hops : Transport.written ops = s.wire.flatten)
    (cs : List Bytes) (hflat : cs.flatten = (Transport.run r { size := size } (ops ++ [.flush])).conn) :
    ∃ rest, readLoop true c (frames.length + 1) cs fin = (frames.map (·.2), some rest) :=
  C04_stream c hv fin frames cs hstep
    (by rw [hflat, conn_is_accepted hr hb hq hroute size hops, hacc])

/-- instance: any list of admissible payloads through the varint codec -/
theorem C04_end_to_end_varint (max : Int) (hmax : max > 0) (fin : RErr) (ps : List Bytes)
    (hadm : ∀ p ∈ ps, (p.length : Int) ≤ max ∧ p.length < 2^63)
    (sync : Bool) (cap : Nat) (untilW : Bool) (acts : List (Chan.Act Bytes)) (s : Chan.St Bytes)
    (hr : Chan.run (NettyVerif.C02.init sync cap untilW) acts = some s)
    (hb : s.broken = false) (hq : s.quiescent = true)
    (hacc : s.accepted = ps.map (fun p => putUvarint p.length ++ p))
    (r : Transport.Route) (hroute : r ∈ Gen.Routing.routes) (size : Nat) (ops : List Transport.Op)
    (hops : Transport.written ops = s.wire.flatten)
    (cs : List Bytes) (hflat : cs.flatten = (Transport.run r { size := size } (ops ++ [.flush])).conn) :
    ∃ rest, readLoop true (.varint max) (ps.length + 1) cs fin = (ps, some rest) :=
  C04_stream_varint max hmax fin ps cs hadm
    (by rw [hflat, conn_is_accepted hr hb hq hroute size hops, hacc])

/-- instance: the length-field codec with its built-in encoder or a matching stand-alone prepender; each frame
    is what `encodePrep` emits for some admissible body, each message that frame minus the stripped bytes -/
theorem C04_end_to_end_lf (c : LFCfg) (pc : PrepCfg) (fin : RErr) (frames : List (Bytes × Bytes))
    (hv : c.valid = true) (hoff : c.offset = 0) (hbig : pc.big = c.big) (hfl : pc.fieldLen = c.fieldLen)
    (hadj : -(2^62) < c.adj ∧ c.adj < 2^62) (hmax62 : c.max < 2^62)
    (hpair : c.adj + pc.adj + (if pc.incl then c.fieldLen else 0) = 0)
    (hframes : ∀ fm ∈ frames, ∃ body, encodePrep pc body = some fm.1 ∧ fm.2 = fm.1.drop c.strip.toNat ∧
        c.fieldLen + body.length ≤ c.max ∧ c.strip ≤ c.fieldLen + body.length)
    (sync : Bool) (cap : Nat) (untilW : Bool) (acts : List (Chan.Act Bytes)) (s : Chan.St Bytes)
    (hr : Chan.run (NettyVerif.C02.init sync cap untilW) acts = some s)
    (hb : s.broken = false) (hq : s.quiescent = true)
    (hacc : s.accepted = frames.map (·.1))
    (r : Transport.Route) (hroute : r ∈ Gen.Routing.routes) (size : Nat) (ops : List Transport.Op)
    (hops : Transport.written ops = s.wire.flatten)
    (cs : List Bytes) (hflat : cs.flatten = (Transport.run r { size := size } (ops ++ [.flush])).conn) :
    ∃ rest, readLoop true (.lf c) (frames.length + 1) cs fin = (frames.map (·.2), some rest) := by
  apply C04_end_to_end (.lf c) hv fin frames _ sync cap untilW acts s hr hb hq hacc r hroute size ops hops cs hflat
  intro fm hfm cs' tl hfl'
  obtain ⟨body, henc, hmsg, hmax, hstrip⟩ := hframes fm hfm
  rw [hmsg]
  exact C04_lf_roundtrip c pc body fm.1 tl cs' fin hv hoff hbig hfl hadj hmax62 hpair henc hmax hstrip hfl'

-- premises satisfiable: a queued channel (capacity 2) that accepted one varint frame and came to rest
example : (Chan.run (NettyVerif.C02.init (α := Bytes) false 2 true)
      [.beginWrite, .enqueue [2, 1, 7], .casWriter, .exec, .sndRecv, .sndDefault, .sndWritev true, .sndPut, .sndLen1,
       .sndFlush true, .sndStore, .lingLen 0]).map (fun s => (s.quiescent, s.broken, s.accepted, s.wire)) =
    some (true, false, [[2, 1, 7]], [[2, 1, 7]]) := by decide

end EndToEnd

end NettyVerif.C04

#print axioms NettyVerif.C04.C04_fragmentation_independent
#print axioms NettyVerif.C04.C04_encoder_sound
#print axioms NettyVerif.C04.C04_encoder_pinned_unsound
#print axioms NettyVerif.C04.C04_lf_roundtrip
#print axioms NettyVerif.C04.C04_varint_roundtrip
#print axioms NettyVerif.C04.C04_delim_roundtrip
#print axioms NettyVerif.C04.C04_fixed_roundtrip
#print axioms NettyVerif.C04.C04_stream
#print axioms NettyVerif.C04.C04_stream_varint
#print axioms NettyVerif.C04.C04_stream_fixed
#print axioms NettyVerif.C04.C04_guards_lf_constructor
#print axioms NettyVerif.C04.C04_guards_pack_field_length
#print axioms NettyVerif.C04.C04_guards_prepender
#print axioms NettyVerif.C04.C04_guards_varint_write
#print axioms NettyVerif.C04.C04_end_to_end
#print axioms NettyVerif.C04.C04_end_to_end_varint
#print axioms NettyVerif.C04.C04_end_to_end_lf
