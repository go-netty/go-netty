import NettyVerif.Proofs.Boot
/-! # C13 — Shutdown stops every listener and closes every channel, whenever it is called

Per-object theorems over Model/Boot.lean (the repaired listener: `closed` mark under a mutex,
context test after the acceptor is created, only the first Close unregisters). Every theorem
quantifies over all action lists, i.e. every placement of Listen / the steps of Sync / accepted
connections / Listener.Close / the steps of Shutdown relative to each other. The inductive
invariants are in Proofs/Boot.lean. -/
namespace NettyVerif.C13
open NettyVerif.Boot

/-- **no listener is left accepting**: once Shutdown has cancelled the context, its Range over the
    registry has returned and every Listener.Close has finished, no Sync is parked in Accept on an
    open acceptor — for every history, including listeners whose Sync had not created (or not even
    begun to create) the acceptor when Shutdown ran, and listeners closed by the user meanwhile -/
theorem C13_no_listener_left_accepting (acts : List LAct) (s : LSt) (hr : lrun {} acts = some s)
    (hd : s.shutdownDone = true) : s.leaked = false := by
  have hi := linv_run linv_init hr
  simp only [LSt.shutdownDone, Bool.and_eq_true, beq_iff_eq] at hd
  cases hl : s.leaked with
  | false => rfl
  | true =>
    simp only [LSt.leaked, Bool.and_eq_true, beq_iff_eq] at hl
    -- marked: a Close would still be pending; unmarked: Shutdown would still have something to do
    have := hi.liveM hl.1 hl.2
    have := hi.liveU hl.1 hl.2
    have := hi.doneStarted
    grind

/-- **the accept loop ends with the server-closed error and a closed acceptor**: with Shutdown done
    and no step of Sync enabled any more (quiescence), a listener whose Sync was started has
    returned ErrServerClosed and its acceptor — if it ever created one — is closed (`syncCheck` and
    `syncListenFail` are left out of the quiescence premise on purpose: a Sync that was never started, or whose
    Listen failed, rests at `.idle`, the first disjunct) -/
theorem C13_sync_ends_server_closed (acts : List LAct) (s : LSt) (hr : lrun {} acts = some s)
    (hd : s.shutdownDone = true)
    (hq : ∀ a ∈ [LAct.syncListen, .syncDecide, .acceptWake, .syncFail], lstep s a = none) :
    s.pc = .idle ∨ (s.pc = .returned true ∧ s.acc ≠ .open) := by
  have hat := (linv_run linv_init hr).atPc
  have hleak := C13_no_listener_left_accepting acts s hr hd
  -- the premise says where Sync rests
  simp [lstep, apply_ite (· = none)] at hq
  have ⟨q1, q2, q3, q4⟩ : s.pc ≠ .checked ∧ s.pc ≠ .created ∧ (s.pc = .accepting → s.acc ≠ .closed) ∧ s.pc ≠ .failed := hq
  cases hp : s.pc with
  | idle => exact .inl rfl
  | accepting =>
    -- `q3`: not on a closed acceptor; `hleak`: not on an open one (Shutdown is done); `atPc`: published, so not `.none`
    simp [LSt.leaked, hp] at hleak hat
    cases ha : s.acc with
    | none => exact absurd ha hat.1
    | «open» => exact absurd ha hleak
    | closed => exact absurd ha (q3 hp)
  | returned b => rw [hp] at hat; exact .inr ⟨by rw [hat.2], hat.1⟩
  | _ => contradiction

/-- a Sync that only starts after Shutdown never accepts: it returns ErrServerClosed either at
    its first check (the listener was closed) or right after creating — and closing — its acceptor -/
theorem C13_late_sync (acts : List LAct) (s : LSt) (hr : lrun {} acts = some s) (hc : s.ctxDone = true)
    (hp : s.pc = .idle) (hl : s.listened = true) :
    (lrun s [.syncCheck]).map (fun t => (t.pc, t.acc)) = some (.returned true, .none) ∨
    (lrun s [.syncCheck, .syncListen, .syncDecide]).map (fun t => (t.pc, t.acc)) = some (.returned true, .closed) := by
  have hat := (linv_run linv_init hr).atPc
  rw [hp] at hat
  cases hm : s.mark with
  | true => left; simp [lrun, lstep, hp, hl, hm, hat.1]
  | false => right; simp [lrun, lstep, hp, hl, hm, hc]

/-- pinned listener (no closed mark, no context test, Close unregisters by url unconditionally):
    `Listen().Async(); Shutdown()` leaves the acceptor open and Sync parked in Accept (negation
    witness; the harness replayed it on the real code before the repair) -/
def lstepPinned (s : LSt) : LAct → Option LSt
  | .syncCheck => if s.pc = .idle ∧ s.listened then some { s with pc := .checked } else none
  | .syncDecide => if s.pc = .created then some { s with pc := .accepting } else none
  | a => lstep s a

def lrunPinned (s : LSt) : List LAct → Option LSt
  | [] => some s
  | a :: as => (lstepPinned s a).bind (lrunPinned · as)

theorem C13_pinned_leaves_live_acceptor :
    (lrunPinned {} [.listen, .cancel, .rangeStart, .closeMark true, .closeUnreg, .rangeEnd, .syncCheck, .syncListen, .syncDecide]).map
      (fun s => (s.shutdownDone, s.leaked)) = some (true, true) := by decide

/-- **no channel is left open**: after Shutdown has cancelled the context and CloseAll has finished,
    a channel — already active, still being set up, or accepted concurrently — is never parked in a
    read, nor inside its active event (where a handler may be waiting for the peer: `activeDone` is
    not among the steps the theorem relies on); once none of its own steps is enabled it is closed,
    with its transport closed exactly once and inactive delivered exactly once (or it was never
    accepted at all) -/
theorem C13_no_channel_left_open (acts : List CAct) (s : CSt) (hr : crun {} acts = some s)
    (hd : s.closeAllDone = true) :
    s.pc ≠ .reading ∧ s.pc ≠ .activating ∧
    ((∀ a ∈ [CAct.serve, .add, .loopCheck, .fireInactive], cstep s a = none) → s.pc = .none ∨ (s.pc = .closed ∧ s.closes = 1 ∧ s.inactives = 1)) := by
  have hi := cinv_run cinv_init hr
  have hsw := hi.doneSwapped hd
  have hat := hi.atPc
  have hnr : s.pc ≠ .reading := fun hp => by simp [hp, hd, hsw] at hat
  have hna : s.pc ≠ .activating := fun hp => by simp [hp, hd, hsw] at hat
  refine ⟨hnr, hna, fun hq => ?_⟩
  -- the premise says where the channel rests, and that inactive has been fired
  simp [cstep, hi.swapCtx hsw] at hq
  have ⟨q1, q2, q3, q4⟩ : s.pc ≠ .accepted ∧ s.pc ≠ .started ∧ s.pc ≠ .loopTop ∧ s.firePending = false := hq
  cases hp : s.pc with
  | none => exact .inl rfl
  | closed =>
    have hc := hi.closes
    have hf := hi.fired
    simp [hp] at hc
    simp [q4, hc] at hf
    exact .inr ⟨rfl, hc, hf⟩
  | _ => contradiction

/-- the transport of a channel is closed at most once, and inactive is delivered exactly as often,
    in every reachable state (Shutdown's CloseAll racing the channel's own close included) -/
theorem C13_channel_closed_once (acts : List CAct) (s : CSt) (hr : crun {} acts = some s) :
    s.closes ≤ 1 ∧ s.inactives ≤ s.closes ∧ (s.firePending = false → s.inactives = s.closes) := by
  have hi := cinv_run cinv_init hr
  have hc := hi.closes
  have hf := hi.fired
  exact ⟨by split at hc <;> omega, by omega, fun h => by simpa [h] using hf⟩

/-- a channel activated after CloseAll swapped the holder's map (so CloseAll never sees it) closes
    itself at its first loop test because its context is already cancelled -/
theorem C13_late_channel_closes_itself (acts : List CAct) (s : CSt) (hr : crun {} acts = some s)
    (hsw : s.swapped = true) (hp : s.pc = .loopTop) :
    (crun s [.loopCheck, .fireInactive]).map (fun s' => (s'.pc, s'.closes, s'.inactives)) = some (.closed, 1, 1) := by
  have hi := cinv_run cinv_init hr
  have hctx := hi.swapCtx hsw
  obtain ⟨h0, hin, -⟩ := hi.open_counts (by simp [hp])
  simp [crun, cstep, hp, hctx, h0, hin]

/-- a channel registered after the context was cancelled (CloseAll may already have swapped the map
    and will never see it) is closed on the spot, before the active event reaches the handlers behind
    the holder -/
theorem C13_late_activation_closes_at_once (acts : List CAct) (s : CSt) (hr : crun {} acts = some s)
    (hc : s.ctxDone = true) (hp : s.pc = .started) :
    (crun s [.add, .fireInactive]).map (fun s' => (s'.pc, s'.closes, s'.inactives)) = some (.closed, 1, 1) := by
  obtain ⟨h0, hin, -⟩ := (cinv_run cinv_init hr).open_counts (by simp [hp])
  simp [crun, cstep, hp, hc, h0, hin]

/-- the holder before the repair (registers and forwards active whatever the context says): a
    connection accepted before Shutdown whose read-loop goroutine reaches the holder after CloseAll
    has finished stays inside its active event for as long as the handler waits — Shutdown is over and
    the channel is open (negation witness; the controller exhibited it on the real code) -/
theorem C13_pinned_late_activation_stays_open :
    (crunPinned {} [.accept, .serve, .cancel, .swap, .closeAllEnd, .add]).map (fun s => (s.closeAllDone, s.pc, s.closes)) =
      some (true, .activating, 0) := by decide

/-- non-vacuity: concrete histories meeting the hypotheses -/
example : (crun {} [.accept, .serve, .add, .cancel, .swap, .closeAllVisit, .fireInactive, .closeAllEnd]).map (fun s => (s.closeAllDone, s.pc, s.closes, s.inactives)) =
    some (true, .closed, 1, 1) := by decide
example : (crun {} [.accept, .cancel, .serve, .swap, .closeAllEnd, .add, .fireInactive]).map (fun s => (s.closeAllDone, s.pc, s.closes, s.inactives)) =
    some (true, .closed, 1, 1) := by decide
example : (crun {} [.accept, .serve, .add, .activeDone, .cancel, .swap, .closeAllVisit, .fireInactive, .closeAllEnd, .loopCheck]).map (fun s => (s.closeAllDone, s.pc, s.closes, s.inactives)) =
    none := by decide
example : (crun {} [.accept, .serve, .add, .activeDone, .loopCheck, .cancel, .swap, .closeAllVisit, .closeAllEnd]).map (fun s => (s.closeAllDone, s.pc, s.closes)) =
    some (true, .closed, 1) := by decide
example : (lrun {} [.listen, .cancel, .rangeStart, .closeMark true, .closeUnreg, .rangeEnd, .syncCheck]).map (fun s => (s.shutdownDone, s.pc, s.acc)) =
    some (true, .returned true, .none) := by decide
example : (lrun {} [.listen, .syncCheck, .syncListen, .cancel, .rangeStart, .closeMark true, .closeUnreg, .rangeEnd, .syncDecide]).map
    (fun s => (s.shutdownDone, s.pc, s.acc)) = some (true, .returned true, .closed) := by decide
example : (lrun {} [.listen, .syncCheck, .syncListen, .syncDecide, .cancel, .rangeStart, .closeMark true, .closeUnreg, .rangeEnd, .closeAcc, .acceptWake, .syncFail]).map
    (fun s => (s.shutdownDone, s.pc, s.acc)) = some (true, .returned true, .closed) := by decide

end NettyVerif.C13

#print axioms NettyVerif.C13.C13_no_listener_left_accepting
#print axioms NettyVerif.C13.C13_sync_ends_server_closed
#print axioms NettyVerif.C13.C13_late_sync
#print axioms NettyVerif.C13.C13_pinned_leaves_live_acceptor
#print axioms NettyVerif.C13.C13_no_channel_left_open
#print axioms NettyVerif.C13.C13_channel_closed_once
#print axioms NettyVerif.C13.C13_late_channel_closes_itself
#print axioms NettyVerif.C13.C13_late_activation_closes_at_once
#print axioms NettyVerif.C13.C13_pinned_late_activation_stays_open
