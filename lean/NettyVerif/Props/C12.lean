import NettyVerif.Proofs.Access
import NettyVerif.Gen.Access
/-! # C12 — no data races in the concurrently usable API

Three layers:
* the meta-theorem (`Proofs/HB.lean`): in every execution trace that respects the semantics of
  mutexes and ownership tokens, accesses that obey a protection policy are ordered by
  happens-before whenever they conflict;
* the bridge (`Proofs/Access.lean`): a table of access sites that passes the policy check induces
  such a policy for every trace whose access events are executions of its sites;
* the table of THIS source tree (`Gen/Access.lean`, regenerated by nvextract on every run) passes
  the check — by kernel evaluation. -/
namespace NettyVerif.C12
open NettyVerif.HB NettyVerif.Access

/-- what the property excludes, and the fields that belong to whoever owns a token -/
def policy : Policy where
  excluded := [("channel", "attachment")]                    -- "unsynchronised attachment access is outside this contract"
  owned := [(("channel", "writeBuffers"), "running", ["channel.writeOnce"]),
            (("channel", "recycleBuffers"), "running", ["channel.writeOnce"])]

/-- **T3 obligation**: every field of channel, bootstrap, bootstrapOptions, listener,
    channelHolder, the idle handlers and pool.Pool is, in the current source, either written only
    during construction, or accessed only through sync/atomic, or accessed only under one mutex of
    its object (writes exclusively), or touched only by the sender that owns the `running` token -/
theorem C12_access_table_ok : tableOK policy Gen.Access.fields Gen.Access.table = true := by decide +kernel

/-- **no data race**: for every execution whose trace respects mutex / token semantics (`WF`),
    whose objects are safely published (`InitFirst`), whose access events are executions of the
    extracted sites, and in which `writeOnce` runs only while its goroutine owns the `running`
    token (the token count `owner` of `Chan.WInv`), no two accesses to a field in scope race -/
theorem C12_no_data_race (W : World) (tr : Trace) (hwf : WF tr) (hinit : InitFirst tr)
    (hinst : ∀ (i : Nat) (e : Ev) (x : Nat) (w a : Bool), tr[i]? = some e → e.op.access = some (x, w, a) →
      ∃ s ∈ Gen.Access.table, InstanceOf W tr i e x w a s)
    (htok : ∀ (i : Nat) (e : Ev) (x : Nat) (w a : Bool) (k : String), tr[i]? = some e → e.op.access = some (x, w, a) → e.init = false →
      classify policy (W.fieldOf x).1 (W.fieldOf x).2 Gen.Access.table = .owned k → Owns tr e.tid (W.tokenOf x k) i) :
    ∀ x i j, W.fieldOf x ≠ ("channel", "attachment") → ¬ RaceOn tr x i j := fun x i j hx =>
  tableOK_race_free policy _ _ C12_access_table_ok W tr hwf hinit hinst htok x i j (by simpa [policy] using hx)

/-- the pinned channel kept the close error in a plain field: written by Close (channel.go:207),
    read by the write paths (219, 299, 341) -/
def pinnedCloseErr : List Site := [
  { obj := "channel", field := "closeErr", ftype := "error", fn := "channel.Close", file := "channel.go", line := 207, kind := .write, excl := [], shared := [], ctor := false },
  { obj := "channel", field := "closeErr", ftype := "error", fn := "channel.Write1", file := "channel.go", line := 219, kind := .read, excl := [], shared := [], ctor := false }]

theorem C12_pinned_closeErr_unprotected : tableOK policy [("channel", "closeErr")] pinnedCloseErr = false := by decide +kernel

/-- … and the two sites do race: Close's write and a writer's read, nothing between them -/
def racyTrace : Trace := [⟨1, .wr 0, false⟩, ⟨2, .rd 0, false⟩]

theorem no_hb_01 : ¬ HB racyTrace 0 1 := by
  intro h
  obtain ⟨ei, ej, hi, hj, he⟩ := h.adjacent rfl
  cases hi; cases hj
  rcases he with h | ⟨l, s1, s2, h, _⟩ | ⟨k, o, h, _⟩ | ⟨c, h, _⟩ | ⟨k, h⟩
  · cases h
  · cases s1 <;> cases h
  all_goals cases h

theorem C12_pinned_closeErr_races : RaceOn racyTrace 0 0 1 :=
  ⟨by omega, ⟨1, .wr 0, false⟩, ⟨2, .rd 0, false⟩, true, false, false, false, rfl, rfl, rfl, rfl, by decide, Or.inl rfl, by simp, no_hb_01⟩

/-- non-vacuity: a trace that meets every hypothesis of the meta-theorem — two goroutines updating
    a mutex-guarded location -/
def goodTrace : Trace := [⟨1, .acq 7, false⟩, ⟨1, .wr 0, false⟩, ⟨1, .rel 7, false⟩, ⟨2, .acq 7, false⟩, ⟨2, .wr 0, false⟩, ⟨2, .rel 7, false⟩]

/-- the only acquisitions in `goodTrace` are the two exclusive ones of lock 7, at 0 and 3 -/
theorem good_acq {a : Nat} {e : Ev} {s : Bool} {l : Nat} (ha : goodTrace[a]? = some e) (ho : e.op = acqOp s l) :
    (a = 0 ∨ a = 3) ∧ s = false ∧ l = 7 := by
  match a with
  | 0 | 3 => cases ha; cases s <;> cases ho; simp
  | 1 | 2 | 4 | 5 => cases ha; cases s <;> cases ho
  | _+6 => cases ha

/-- the semantic hypotheses are satisfiable: the trace is well-formed and both writes hold the lock -/
theorem good_wf : WF goodTrace := by
  constructor
  · intro a j ea ej l s1 s2 haj ha hj hoa hoj hs
    obtain ⟨h1, rfl, rfl⟩ := good_acq ha hoa
    obtain ⟨h2, _⟩ := good_acq hj hoj
    obtain ⟨rfl, rfl⟩ : a = 0 ∧ j = 3 := by omega
    cases ha
    exact ⟨2, ⟨1, .rel 7, false⟩, by omega, by omega, rfl, rfl, rfl⟩
  · intro a j ea ej k o1 o2 haj ha hj hoa hoj
    match a with
    | 0 | 1 | 2 | 3 | 4 | 5 => cases ha; cases hoa
    | _+6 => cases ha

example : Held goodTrace 1 7 false 1 := ⟨0, ⟨1, .acq 7, false⟩, by omega, rfl, rfl, rfl, by intro r e' h1 h2; omega⟩
example : Held goodTrace 2 7 false 4 := ⟨3, ⟨2, .acq 7, false⟩, by omega, rfl, rfl, rfl, by intro r e' h1 h2; omega⟩

end NettyVerif.C12

#print axioms NettyVerif.HB.policy_race_free
#print axioms NettyVerif.Access.table_conforms
#print axioms NettyVerif.C12.C12_access_table_ok
#print axioms NettyVerif.C12.C12_no_data_race
#print axioms NettyVerif.C12.C12_pinned_closeErr_unprotected
#print axioms NettyVerif.C12.C12_pinned_closeErr_races
