import NettyVerif.Model.Life
import NettyVerif.Model.Panic
import NettyVerif.Proofs.PanicNest
/-! # C07 — Handler panics and transport failures are contained and routed as exceptions -/
namespace NettyVerif.C07
open NettyVerif.Panic NettyVerif.Pipeline

/-- the exception handlers of a pipeline, by position, up to the first that does not forward -/
abbrev excChain := Panic.chain

/-- **containment**: whatever handler panics with whatever value during delivery of an active, read,
    write or user event entered through Channel.Write / Channel.Trigger / the read loop, the panic
    never escapes into the caller (the read or send goroutine survives) -/
theorem C07_never_escapes (hs : List PHandler) (hf : Option PVal) (k : Kind) (closed : Bool) :
    (invoke hs hf k closed).escaped = false := by
  unfold invoke
  simp only
  split
  · rfl
  · split <;> rfl

theorem C07_ctx_never_escapes (hs : List PHandler) (hf : Option PVal) (k : Kind) (i : Nat) :
    (ctxInvoke hs hf k i).escaped = false := by
  unfold ctxInvoke
  simp only
  split <;> rfl

/-- **routing**: while the channel is open, a panic is delivered exactly once to the exception
    handlers in pipeline order — the chain of exception-implementing handlers up to the first that
    does not forward — carrying the panic value (the error itself when it is one); if nobody
    consumes it (it reaches the tail) or it is a non-timeout net.Error the channel is closed with it,
    otherwise the channel stays open -/
theorem C07_routed_once_in_order (hs : List PHandler) (hf : Option PVal) (k : Kind) (pos : Nat) (val : PVal)
    (v : List Nat) (hp : deliverP hs hf k (if k = .write then hs.length + 1 else 0) = (v, .panic pos val)) :
    let r := invoke hs hf k false
    r.excVisited = (excChain 1 hs).1 ∧ r.excVal = some val ∧
    (r.closedWith = some val ↔ ((excChain 1 hs).2 = true ∨ val.isFatalNet = true)) ∧
    (r.closedWith = none ↔ ((excChain 1 hs).2 = false ∧ val.isFatalNet = false)) := by
  simp only [invoke, hp, Bool.false_eq_true, ite_false, fireException_chain]
  cases h1 : (excChain 1 hs).2 <;> simp

/-- on a channel that is already closed a recovered panic is dropped silently (no exception event) -/
theorem C07_closed_channel_silent (hs : List PHandler) (hf : Option PVal) (k : Kind) :
    (invoke hs hf k true).excVisited = [] ∧ (invoke hs hf k true).closedWith = none := by
  unfold invoke
  simp only
  split
  · exact ⟨rfl, rfl⟩
  · simp

/-- without a panic nothing is routed as an exception and the channel is only closed by an
    exception event that itself reaches the tail -/
theorem C07_no_panic_no_exception (hs : List PHandler) (hf : Option PVal) (k : Kind) (closed : Bool) (v : List Nat) (f : Final)
    (hp : deliverP hs hf k (if k = .write then hs.length + 1 else 0) = (v, .fin f)) :
    (invoke hs hf k closed).excVisited = [] ∧ (invoke hs hf k closed).closedWith = none ∧
    (invoke hs hf k closed).visited = v := by
  simp [invoke, hp]

/-- non-vacuity: handler 2 panics with an error on read; handler 1 and 3 are exception handlers,
    1 forwards, 3 swallows: the exception visits positions 1 and 3 and the channel stays open -/
def h1 : PHandler := { h := { id := 11, impl := 10, fwd := 10 } }
def h2 : PHandler := { h := { id := 12, impl := 2, fwd := 2 }, pan := 2, val := .err 7 }
def h3 : PHandler := { h := { id := 13, impl := 8, fwd := 0 } }
example : invoke [h1, h2, h3] none .read false =
    { visited := [1, 2], escaped := false, excVisited := [1, 3], excVal := some (.err 7), closedWith := none, closedByEvent := false } := by
  decide
example : (invoke [h1, h2] none .read false).closedWith = some (.err 7) := by decide
example : (invoke [h3] (some (.netFatal 1)) .write false).closedWith = some (.netFatal 1) := by decide

/-- **overlapping exceptions**: an exception handler on the chain (position `r`) answers the exception
    `v` by `Channel.Write` / `Channel.Trigger` (kind `rk`), and a handler panics with `v2` during that
    delivery. Both exceptions are then delivered exactly once, each to the whole chain of exception
    handlers in pipeline order; the channel stays open exactly when neither reaches the tail nor is a
    non-timeout net.Error, and when the second one closes the channel it is closed with the second one
    (it gets there first) -/
theorem C07_nested_panic_each_delivered_once (hs : List PHandler) (hf : Option PVal) (k rk : Kind) (r : Nat)
    (vis vis2 : List Nat) (pos pos2 : Nat) (v v2 : PVal)
    (hp : deliverP hs hf k (if k = .write then hs.length + 1 else 0) = (vis, .panic pos v))
    (hn : deliverP hs hf rk (if rk = .write then hs.length + 1 else 0) = (vis2, .panic pos2 v2))
    (hr : r ∈ (excChain 1 hs).1) (hne : v ≠ v2) :
    let res := invokeR hs hf k r rk
    excOf v res.trace = (excChain 1 hs).1 ∧ excOf v2 res.trace = (excChain 1 hs).1 ∧
    (res.closedWith = none ↔ ((excChain 1 hs).2 = false ∧ v.isFatalNet = false ∧ v2.isFatalNet = false)) ∧
    (((excChain 1 hs).2 = true ∨ v2.isFatalNet = true) → res.closedWith = some v2) := by
  have hN := nestedInvoke_panic hn
  have hNv : excOf v (nestedInvoke hs hf rk).1 = [] := by
    rw [hN.1, if_neg hne.symm]
  simp only [invokeR, hp, excOf_append, excOf_visits, List.nil_append, excOf_excReact_self hNv,
    excOf_excReact_other hne, (excReact_reacted ..).2 hr, excReact_tail, hr, ite_true, hN.1, hN.2,
    Bool.true_and]
  refine ⟨trivial, trivial, ?_, ?_⟩
  · cases h1 : (chain 1 hs).2 <;> cases h3 : v2.isFatalNet <;> simp
  · rintro (h | h) <;> simp [h]

/-- a reaction whose delivery does not panic leaves the first exception's route untouched -/
theorem C07_quiet_reaction (hs : List PHandler) (hf : Option PVal) (k rk : Kind) (r : Nat)
    (vis vis2 : List Nat) (pos : Nat) (v : PVal) (f : Final)
    (hp : deliverP hs hf k (if k = .write then hs.length + 1 else 0) = (vis, .panic pos v))
    (hn : deliverP hs hf rk (if rk = .write then hs.length + 1 else 0) = (vis2, .fin f)) :
    let res := invokeR hs hf k r rk
    excOf v res.trace = (excChain 1 hs).1 ∧ res.closedWith = (invoke hs hf k false).closedWith := by
  have hN := nestedInvoke_fin hn
  simp only [invokeR, invoke, hp, excOf_append, excOf_visits, List.nil_append, hN.2, Option.isSome_none, Bool.and_false,
    Bool.false_eq_true, ite_false, fireException_chain, excOf_excReact_self (hN.1 v), excReact_tail, and_self]

/-- with no reacting handler the model is the one the other theorems speak about -/
theorem C07_reactor_absent (hs : List PHandler) (hf : Option PVal) (k rk : Kind) :
    let a := invokeR hs hf k 0 rk
    let b := invoke hs hf k false
    a.trace = b.visited.map (fun p => TEv.visit k p) ++ (match b.excVal with | some v => b.excVisited.map (fun p => TEv.exc p v) | none => []) ∧
    a.closedWith = b.closedWith := by
  simp only [invokeR, invoke]
  split
  · simp
  · simp [excReact_none _ _ (Nat.lt_succ_self 0), fireException_chain]

open NettyVerif.Life in
/-- a panic of the active handler (or of a read handler) is owed to the exception handlers: the
    acceptor refuses a further read before the exception was routed, unless the channel was closed
    meanwhile (then `invokeMethod` drops it); the hand-off barrier is released all the same -/
theorem C07_served_channel_panics_are_routed :
    Life.run {} [.activeBegin, .activePanic, .readBegin] = none ∧
    (Life.run {} [.activeBegin, .activePanic, .handOut, .exception, .readBegin]).isSome = true ∧
    (Life.run {} [.activeBegin, .activePanic, .closeWin 1, .readBegin]).isSome = true ∧
    Life.run {} [.activeBegin, .activeEnd, .readBegin, .readEnd false, .readBegin] = none ∧
    (Life.run {} [.activeBegin, .activeEnd, .readBegin, .readEnd false, .exception, .readBegin]).isSome = true ∧
    Life.run {} [.activeBegin, .activeEnd, .exception] = none := by decide

end NettyVerif.C07

#print axioms NettyVerif.C07.C07_never_escapes
#print axioms NettyVerif.C07.C07_ctx_never_escapes
#print axioms NettyVerif.C07.C07_routed_once_in_order
#print axioms NettyVerif.C07.C07_closed_channel_silent
#print axioms NettyVerif.C07.C07_no_panic_no_exception
#print axioms NettyVerif.C07.C07_served_channel_panics_are_routed
#print axioms NettyVerif.C07.C07_nested_panic_each_delivered_once
#print axioms NettyVerif.C07.C07_quiet_reaction
#print axioms NettyVerif.C07.C07_reactor_absent
