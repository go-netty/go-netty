import NettyVerif.Proofs.Chan
import NettyVerif.Props.C17
/-! # C01 — Accepted writes reach the transport exactly once, in order, intact

Over the Chan LTS (Model/Chan.lean): `accepted` is the ghost list of payloads in acceptance order
(appended by the enqueue step of an async write call, by the transport write of a sync one),
`wire` the packets handed to the transport.  Every theorem quantifies over the channel kind, the
queue capacity (any `cap`, blocking or not), the payload type, and *all* action lists — i.e. any
number of concurrent writer goroutines and every interleaving with the sender(s) and the executor. -/
namespace NettyVerif.C01
open NettyVerif.Chan
variable {α : Type}

def init (sync : Bool) (cap : Nat) (untilW : Bool) : St α := { sync := sync, cap := cap, untilW := untilW }

/-- **FIFO invariant**: as long as the transport accepts writes, what was accepted is exactly what
    is on the wire, followed by the batch being assembled, followed by the queue -/
theorem C01_fifo (sync : Bool) (cap : Nat) (untilW : Bool) (acts : List (Act α)) (s : St α)
    (hr : run (init sync cap untilW) acts = some s) (hb : s.broken = false) :
    s.accepted = s.wire ++ s.batch ++ s.q :=
  (reach_inv hr).fifo hb

/-- hence at every moment the wire is a prefix of the accepted payloads in acceptance order: each
    payload appears at most once, whole and unmodified, never out of order, and nothing else does -/
theorem C01_wire_is_prefix (sync : Bool) (cap : Nat) (untilW : Bool) (acts : List (Act α)) (s : St α)
    (hr : run (init sync cap untilW) acts = some s) (hb : s.broken = false) :
    s.wire <+: s.accepted :=
  (reach_inv hr).wire_prefix hb

/-- synchronous channel: accepted = wire, always -/
theorem C01_sync_exact (cap : Nat) (untilW : Bool) (acts : List (Act α)) (s : St α)
    (hr : run (init true cap untilW) acts = some s) (hb : s.broken = false) : s.wire = s.accepted := by
  have hinv := reach_inv hr
  have hsync : s.sync = true := (run_mono hr).sync
  obtain ⟨-, -, hq, hrun⟩ := hinv.syncIdle hsync
  rw [hinv.fifo hb, hinv.idle_clean hb hrun, hq]; simp

/-- acceptance order is real-time order: a payload accepted by a later step is appended behind every
    payload accepted before (so a call that returned before another began precedes it, and one
    goroutine's payloads keep their call order) -/
theorem C01_acceptance_appends (s s' : St α) (p : α) (h : step s (.enqueue p) = some s') :
    s'.accepted = s.accepted ++ [p] ∧ s'.wire = s.wire := by
  step_cases step h <;> simp

/-- only acceptance steps extend `accepted`, and only the owner's Writev / a sync write extends the wire -/
theorem C01_wire_only_grows (s s' : St α) (a : Act α) (h : step s a = some s') : s.wire <+: s'.wire :=
  (step_mono h).wire

/-- non-vacuity: two writers, capacity 1, the second enqueue happens while the sender is mid-batch -/
example : (run (init false 1 true : St Nat)
    [.beginWrite, .beginWrite, .enqueue 1, .casWriter, .exec, .sndRecv, .enqueue 2, .casWriter, .sndWritev true, .sndPut, .sndLen1, .sndRecv, .sndWritev true]).map
      (fun s => (s.wire, s.accepted, s.q)) = some ([1, 2], [1, 2], []) := by decide

/-! ## down to the connection: the transport wrappers of transport/buffered.go

The channel hands its packets to a `transport.Transport`; with read / write buffering configured
that is one of the four wrappers of buffered.go. Whatever sequence of Write / Writev / Flush calls
the channel issues, the bytes reaching the connection are a prefix of the bytes written, in call
order — for every wrapper the extractor finds in the current source (T3, `Gen/Routing.lean`). -/
open NettyVerif.Transport in
theorem C01_connection_gets_a_prefix (r : Route) (hr : r ∈ Gen.Routing.routes) (size : Nat) (ops : List Op) :
    (Transport.run r { size := size } ops).conn <+: written ops := by
  have h := (NettyVerif.C17.C17_write_stream r (NettyVerif.C17.routes_good hr) ops { size := size } (fun _ => rfl)).1
  exact ⟨_, h⟩

end NettyVerif.C01

#print axioms NettyVerif.C01.C01_fifo
#print axioms NettyVerif.C01.C01_wire_is_prefix
#print axioms NettyVerif.C01.C01_sync_exact
#print axioms NettyVerif.C01.C01_acceptance_appends
#print axioms NettyVerif.C01.C01_wire_only_grows
#print axioms NettyVerif.C01.C01_connection_gets_a_prefix
