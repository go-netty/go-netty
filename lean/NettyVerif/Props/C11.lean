import NettyVerif.Proofs.Chan
import NettyVerif.Model.Carrier
/-! # C11 — Writes on a closed channel fail and transmit nothing

Chan LTS with the repaired entry check: every write entry point first evaluates `closedError()`,
i.e. reads the atomic closed flag (`beginWrite` if open, `rejectWrite` if closed). -/
namespace NettyVerif.C11
open NettyVerif.Chan
variable {α : Type}

/-- the closed flag never resets -/
theorem C11_closed_monotone (s s' : St α) (a : Act α) (h : step s a = some s') (hc : s.closed = true) :
    s'.closed = true :=
  (step_mono h).closed hc

/-- once any Close has won the flag, a write call's entry check can only reject, and rejecting
    changes nothing -/
theorem C11_reject (s : St α) (hc : s.closed = true) :
    step s .beginWrite = none ∧ step s .rejectWrite = some s := by
  simp [step, hc]

/-- "no new call can be accepted": closed, and no call that passed its entry check earlier is still
    on its way to the queue or the transport -/
def Sealed (s : St α) : Prop := s.closed = true ∧ s.inflight = 0 ∧ s.lockHeld = false

theorem C11_sealed_step (s s' : St α) (a : Act α) (h : step s a = some s') (hs : Sealed s) :
    Sealed s' ∧ s'.accepted = s.accepted :=
  have m := step_mono h
  ⟨⟨m.closed hs.1, (m.sealed hs).1, (m.sealed hs).2.1⟩, (m.sealed hs).2.2⟩

/-- **after Close has returned** (closed flag set) and the calls that were already past their entry
    check have finished, nothing is ever accepted again, whatever happens: every later write is
    rejected (`C11_reject`) and `accepted` — hence the bytes that can reach the transport — is frozen,
    for every Close argument (the argument does not occur in the model: nil behaves like any error) -/
theorem C11_nothing_accepted_after_close : ∀ (acts : List (Act α)) (s s' : St α), Sealed s → run s acts = some s' →
    s'.accepted = s.accepted := fun _ _ _ hs hr =>
  ((run_mono hr).sealed hs).2.2

/-- non-vacuity: Close(nil) wins, a later write call is rejected, the queue stays as it was -/
example : (run ({ sync := false, cap := 2 } : St Nat)
    [.closeCas, .closeLen, .closeLoad, .closeSetErr, .closeTr, .closeCancel, .closeFire, .rejectWrite]).map
      (fun s => (s.closed, s.accepted, s.inflight)) = some (true, [], 0) := by decide

open NettyVerif.Carrier in
/-- ReadFrom with a Close falling between two chunks: exactly the chunks read before the close are
    written, nothing read afterwards is, and the call reports the close error (every chunk goes
    through the closed check of the low-level write, which `C11_reject` shows to refuse) -/
theorem C11_readfrom_stops_at_close (chunks : List Carrier.Bytes) (j : Nat) (h1 : 0 < j) (h2 : j ≤ chunks.length) :
    (readFromClosing chunks j).1 = chunks.take (j - 1) ∧ (readFromClosing chunks j).2.2 = true ∧
    (readFromClosing chunks j).1.flatten.length ≤ (readFromClosing chunks j).2.1 := by
  obtain ⟨k, rfl⟩ : ∃ k, j = k + 1 := ⟨j - 1, by omega⟩
  simp [readFromClosing, Nat.not_lt.2 h2, List.take_add]

end NettyVerif.C11

#print axioms NettyVerif.C11.C11_closed_monotone
#print axioms NettyVerif.C11.C11_reject
#print axioms NettyVerif.C11.C11_sealed_step
#print axioms NettyVerif.C11.C11_nothing_accepted_after_close
#print axioms NettyVerif.C11.C11_readfrom_stops_at_close
