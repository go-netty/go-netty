import NettyVerif.Model.Idle
/-! # C20 — Idle handlers fire only after a full idle period and never after inactive -/
namespace NettyVerif.C20
open NettyVerif.Idle

/-- invariant over all histories with a monotone clock; it is indexed by the clock, which is why it is carried
    along `run` by an induction of its own (`C20_inv_run`) and not by `run_invariant` -/
structure IInv (s : St) (now : Nat) : Prop where
  lastLe : s.last ≤ now
  actLe : s.act ≤ s.last
  firedOk : ∀ t ∈ s.fired, t ≤ now
  armedOk : ∀ d, s.tmr = .armed d → s.last + s.idle ≤ d          -- never armed for earlier than last + idle
  ctxArmed : s.ctx = true → ∃ d, s.tmr = .armed d                 -- while active the timer is always armed (re-arm invariant)
  nilNoCtx : s.tmr = .nil → s.ctx = false

/-- the timer callback: enabled exactly when armed and due; it records `t` when a full idle period
    has passed and the context is still cached, and re-arms -/
theorem step_fire {s s' : St} {t : Nat} : step s (.fire t) = some s' ↔
    ∃ d, s.tmr = .armed d ∧ d ≤ t ∧
      s' = { s with fired := if decide (t - s.last ≥ s.idle) && s.ctx then t :: s.fired else s.fired,
                    tmr := .armed (t + s.idle) } := by
  cases h : s.tmr <;> simp [step, h]
  exact fun _ => eq_comm

theorem fireThenInactive_eq (s : St) (t : Nat) :
    fireThenInactive s t = (step s (.fire t)).bind (step · (.inactive t)) := by
  cases h : s.tmr <;> simp [fireThenInactive, step, h]
  split <;> simp

theorem inv_step {s s' : St} {now : Nat} {o : Op} (h : IInv s now) (hm : now ≤ o.time) (hs : step s o = some s') :
    IInv s' o.time := by
  obtain ⟨lastLe, actLe, firedOk, armedOk, ctxArmed, nilNoCtx⟩ := h
  have fired' : ∀ x ∈ s.fired, x ≤ o.time := fun x hx => Nat.le_trans (firedOk x hx) hm
  cases o with
  | active t => simp [step] at hs; subst hs; exact ⟨Nat.le_refl _, Nat.le_refl _, fired', by simp, by simp, by simp⟩
  | touch t =>
    simp [step] at hs; subst hs
    -- a non-nil timer is re-armed for `t + idle` exactly (`armedOk`), stays armed (`ctxArmed`), and a nil one stays nil (`nilNoCtx`)
    refine ⟨Nat.le_refl _, Nat.le_trans actLe (Nat.le_trans lastLe hm), fired', ?_, ?_, ?_⟩ <;>
      cases htm : s.tmr <;> simp_all [Op.time]
  | inactive t => simp [step] at hs; subst hs; exact ⟨Nat.le_trans lastLe hm, actLe, fired', by simp, by simp, by simp⟩
  | fire t =>
    obtain ⟨d, htm, hdt, rfl⟩ := step_fire.1 hs
    have hm : now ≤ t := hm      -- `Op.time (.fire t)` unfolded, for `omega`
    refine ⟨Nat.le_trans lastLe hm, actLe, fun x hx => ?_, by simp; omega, by simp, by simp⟩
    split at hx
    · rcases List.mem_cons.1 hx with rfl | hx
      · exact Nat.le_refl _
      · exact fired' x hx
    · exact fired' x hx

/-- **an idle event is delivered only after a full idle period**: every delivery's check instant `t`
    satisfies `t - last ≥ idle` where `last` is the latest completed read/write (or the activation)
    at that instant — hence also `t - activation ≥ idle` -/
theorem C20_fire_only_when_idle (s s' : St) (now t : Nat) (h : IInv s now) (hs : step s (.fire t) = some s')
    (hnew : s'.fired ≠ s.fired) :
    s.last + s.idle ≤ t ∧ s.act + s.idle ≤ t ∧ s.ctx = true ∧ s'.fired = t :: s.fired := by
  obtain ⟨d, htm, hdt, rfl⟩ := step_fire.1 hs
  have harm := h.armedOk d htm
  have hact := h.actLe
  by_cases he : decide (t - s.last ≥ s.idle) && s.ctx
  · simp only [he, ite_true, and_true]
    simp at he; exact ⟨by omega, by omega, he.2⟩
  · simp [he] at hnew

/-- the timer never fires before `last + idle`: it is never armed for an earlier deadline -/
theorem C20_never_armed_early (s : St) (now d : Nat) (h : IInv s now) (ha : s.tmr = .armed d) : s.last + s.idle ≤ d :=
  h.armedOk d ha

/-- **idleness keeps being reported**: while the handler is active its timer is armed, and a firing
    at any time ≥ the deadline with no read/write in between delivers the event and re-arms -/
theorem C20_keeps_firing (s : St) (now : Nat) (h : IInv s now) (hc : s.ctx = true) :
    ∃ d, s.tmr = .armed d ∧ ∀ t, d ≤ t → ∃ s', step s (.fire t) = some s' ∧ s'.fired = t :: s.fired ∧ s'.tmr = .armed (t + s.idle) := by
  obtain ⟨d, hd⟩ := h.ctxArmed hc
  refine ⟨d, hd, fun t ht => ⟨_, step_fire.2 ⟨d, hd, ht, rfl⟩, ?_, rfl⟩⟩
  have := h.armedOk d hd
  simp [hc]; omega

/-- **after inactive**: the timer pointer is nil, no firing is enabled and no read/write re-arms it;
    only a new activation can -/
theorem C20_nothing_after_inactive (s s1 : St) (t : Nat) (h : step s (.inactive t) = some s1) :
    s1.tmr = .nil ∧ s1.ctx = false ∧ (∀ t', step s1 (.fire t') = none) ∧
    (∀ t' s2, step s1 (.touch t') = some s2 → s2.tmr = .nil ∧ s2.fired = s1.fired) := by
  simp [step] at h; subst h
  refine ⟨rfl, rfl, by intro t'; simp [step], ?_⟩
  intro t' s2 h2; simp [step] at h2; subst h2; exact ⟨rfl, rfl⟩

/-- a callback already in flight when inactive arrives delivers at most its one event and leaves
    the timer released -/
theorem C20_in_flight_callback (s s' : St) (t : Nat) (h : fireThenInactive s t = some s') :
    s'.tmr = .nil ∧ s'.ctx = false ∧ (s'.fired = s.fired ∨ s'.fired = t :: s.fired) := by
  rw [fireThenInactive_eq, Option.bind_eq_some_iff] at h
  obtain ⟨s1, h1, h2⟩ := h
  obtain ⟨d, -, -, rfl⟩ := step_fire.1 h1
  simp [step] at h2; subst h2
  split <;> simp

/-- all histories: the invariant holds along every monotone operation list from a fresh handler -/
theorem C20_inv_run : ∀ (ops : List Op) (s s' : St) (now : Nat), IInv s now → monotone now ops = true →
    run s ops = some s' → ∃ now', IInv s' now'
  | [], s, s', now, h, _, hr => by cases hr; exact ⟨now, h⟩
  | o :: ops, s, s', now, h, hm, hr => by
    simp only [monotone, Bool.and_eq_true, decide_eq_true_eq] at hm
    obtain ⟨s1, hs, hr⟩ := Option.bind_eq_some_iff.1 hr
    exact C20_inv_run ops s1 s' o.time (inv_step h hm.1 hs) hm.2 hr

theorem C20_inv_init (idle : Nat) : IInv { idle := idle } 0 := by
  constructor <;> simp

/-- non-vacuity: active at 0 (idle 5), read at 3 re-arms for 8: a firing at 5 is not even enabled;
    firings at 8 and 13 deliver; after inactive at 14 nothing is enabled any more -/
example : (run { idle := 5 } [.active 0, .touch 3, .fire 8, .fire 13, .inactive 14]).map (fun s => (s.fired, s.tmr)) =
    some ([13, 8], .nil) := by decide
example : step ({ idle := 5, last := 3, tmr := .armed 8, ctx := true } : St) (.fire 5) = none := by decide

end NettyVerif.C20

#print axioms NettyVerif.C20.inv_step
#print axioms NettyVerif.C20.C20_fire_only_when_idle
#print axioms NettyVerif.C20.C20_never_armed_early
#print axioms NettyVerif.C20.C20_keeps_firing
#print axioms NettyVerif.C20.C20_nothing_after_inactive
#print axioms NettyVerif.C20.C20_in_flight_callback
#print axioms NettyVerif.C20.C20_inv_run
