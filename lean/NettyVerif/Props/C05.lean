import NettyVerif.Proofs.ChanClose
import NettyVerif.Proofs.Life
/-! # C05 — Channel lifecycle

The Close election: over the Chan LTS, for any number of concurrent Close calls (each is a `closeCas` action; the
losers return at once) and every interleaving with writers and senders. -/
namespace NettyVerif.C05
open NettyVerif.Chan
variable {α : Type}

def init (sync : Bool) (cap : Nat) (untilW : Bool) : St α := { sync := sync, cap := cap, untilW := untilW }

/-- the transport is closed at most once, and exactly once when the closed flag is set and the
    winning Close has returned; then the close error is stored and the channel context cancelled -/
theorem C05_close_once (sync : Bool) (cap : Nat) (untilW : Bool) (acts : List (Act α)) (s : St α)
    (hr : run (init sync cap untilW) acts = some s) :
    s.closeCount ≤ 1 ∧
    (s.closed = true → s.closer = none → s.closeCount = 1 ∧ s.trClosed = true ∧ s.ctxDone = true ∧ s.closeErrSet = true) ∧
    (s.closed = false → s.closeCount = 0 ∧ s.trClosed = false ∧ s.ctxDone = false) := by
  obtain ⟨phase, cnt, -⟩ := reach_cinv hr
  -- `phase` reads the four flags off `closer`, `cnt` the count off `trClosed`
  cases hc : s.closer with
  | none => cases hcl : s.closed <;> simp_all
  | some pc => cases pc <;> simp_all [CPc.done]

/-- at most one Close is ever past the election (the CAS on the closed flag admits a single winner) -/
theorem C05_single_winner (s s' : St α) (h : step s .closeCas = some s') (hc : s.closed = true) : s' = s := by
  simp [step, hc] at h; exact h.symm

/-- IsActive is false as soon as any Close call has returned: a Close call returns either as a loser
    (the flag was already set) or as the winner (which set it), and the flag never resets -/
theorem C05_closed_after_any_close (s s' : St α) (h : step s .closeCas = some s') : s'.closed = true := by
  step_cases step h <;> first | assumption | rfl

/-- order of the winner's steps: the close error is stored before the transport is closed, the
    transport is closed before the context is cancelled -/
theorem C05_close_order (sync : Bool) (cap : Nat) (untilW : Bool) (acts : List (Act α)) (s : St α)
    (hr : run (init sync cap untilW) acts = some s) :
    (s.trClosed = true → s.closeErrSet = true) ∧ (s.ctxDone = true → s.trClosed = true) := by
  have := (reach_cinv hr).phase
  cases hc : s.closer with
  | none => cases hcl : s.closed <;> simp_all
  | some pc => cases pc <;> simp_all [CPc.done]

/-! ## the read-loop half: what every accepted sequence of lifecycle events satisfies

`Life` is an acceptor whose actions are the observable events of one served channel; a guard
states when the code can produce the event (Model/Life.lean). The tie checks that every event
sequence of the real channel is accepted. -/
open NettyVerif.Life in
/-- **active once and first; reads one at a time; closed and inactive exactly once** — for every
    accepted event sequence: the active event is fired at most once; the channel is handed out and
    reads are delivered only after it completed; at most one read is in flight; the transport is
    closed at most once, only after some Close won; the context is cancelled only after the
    transport was closed; inactive is delivered at most once, after the context was cancelled, and
    carries the error of the Close call that took effect; when that call has returned, transport
    closed, context cancelled and inactive delivered are all true; the read loop leaves only with
    its context cancelled and no read in flight -/
theorem C05_lifecycle (es : List Life.Ev) (s : Life.St) (hr : Life.run {} es = some s) :
    s.activeBegun ≤ 1 ∧ (s.handedOut = true → s.activeEnded = true) ∧ (s.readsBegun > 0 → s.activeEnded = true) ∧
    (s.readsBegun = s.readsEnded ∨ s.readsBegun = s.readsEnded + 1) ∧
    s.trCloses ≤ 1 ∧ (s.trCloses = 1 → s.winner.isSome = true) ∧ (s.ctxDone = true → s.trCloses = 1) ∧
    s.inactives.length ≤ 1 ∧ (∀ e, e ∈ s.inactives → s.winner = some e ∧ s.ctxDone = true) ∧
    (s.winnerReturned = true → s.inactives.length = 1 ∧ s.ctxDone = true ∧ s.trCloses = 1) ∧
    (s.loopExited = true → s.ctxDone = true ∧ s.inRead = false) := by
  have h := Life.inv_run Life.inv_init hr
  refine ⟨h.activeOnce, h.handAfterActive, h.readAfterActive, ?_, h.trOnce, h.trNeedsWinner, h.ctxNeedsTr, h.inactiveOnce,
    h.inactiveWinner, ?_, h.exitNeedsCtx⟩
  · have := h.oneAtATime; split at this <;> omega
  · intro hw
    obtain ⟨a, b, c⟩ := h.retDone hw
    have := h.inactiveOnce
    have := List.length_pos_iff.2 a
    exact ⟨by omega, b, c⟩

/-- what the acceptor refuses (so a channel doing it is reported by the tie): handing the channel out
    before the active event completed, a second active event, a read while another is in flight, a
    second transport close, an inactive event with another error than the winner's, leaving the
    read loop with a live context; the last conjunct is a complete history that it accepts -/
theorem C05_lifecycle_refuses :
    Life.run {} [.activeBegin, .handOut] = none ∧
    Life.run {} [.activeBegin, .activeEnd, .activeBegin] = none ∧
    Life.run {} [.activeBegin, .activeEnd, .readBegin, .readBegin] = none ∧
    Life.run {} [.activeBegin, .activeEnd, .closeWin 1, .closeTr, .closeTr] = none ∧
    Life.run {} [.activeBegin, .activeEnd, .closeWin 1, .closeTr, .closeCancel, .inactive 2] = none ∧
    Life.run {} [.activeBegin, .activeEnd, .loopExit] = none ∧
    (Life.run {} [.activeBegin, .activeEnd, .handOut, .readBegin, .closeWin 1, .closeTr, .readEnd false, .closeCancel, .inactive 1,
      .closeRet true, .loopExit, .closeRet false]).isSome = true := by decide

end NettyVerif.C05

#print axioms NettyVerif.C05.C05_close_once
#print axioms NettyVerif.C05.C05_single_winner
#print axioms NettyVerif.C05.C05_closed_after_any_close
#print axioms NettyVerif.C05.C05_close_order
#print axioms NettyVerif.C05.C05_lifecycle
#print axioms NettyVerif.C05.C05_lifecycle_refuses
