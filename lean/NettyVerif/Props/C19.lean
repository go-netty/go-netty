import NettyVerif.Proofs.Pool
import NettyVerif.Base.Run
/-! # C19 — Buffer pool: capacity and exclusive ownership hold for every Get/Put history

Arithmetic theorems are stated over `Gen.Pmath.*`, the definitions regenerated from
utils/pool/internal/pmath/pmath.go on every run (tie T1); history theorems are stated over the
hand model Model/Pool.lean, which the correspondence check (tie T2) runs against the real
`pool.Pool`, `pbytes.Pool` and `pbuffer.Pool`. -/
namespace NettyVerif.C19
open NettyVerif.Pool NettyVerif.Pmath Gen.Pmath

/-- `CeilToPowerOfTwo n` for `2 < n ≤ 2^62`: a power of two, `n ≤ r < 2n` (least power ≥ n). -/
theorem C19_ceil (n : I) (h0 : 2 < n.toInt) (h : n.toInt ≤ 2^62) :
    ∃ r k, CeilToPowerOfTwo n = some r ∧ r.toNat = 2^k ∧ n.toNat ≤ r.toNat ∧ r.toNat < 2 * n.toNat := by
  obtain ⟨r, hr, heq⟩ := ceil_eq n h0 h
  obtain ⟨e, _⟩ := toInt_eq_toNat n (by omega)
  have := ceilNat_spec n.toNat (by omega)
  exact ⟨r, _, hr, heq.trans (ceilNat_of_gt (by omega)), by omega, by omega⟩

/-- small and negative arguments are returned unchanged (0, 1, 2 and every negative int) -/
theorem C19_ceil_small (n : I) (h : n.toInt ≤ 2) : CeilToPowerOfTwo n = some n := by
  rw [ceil_unfold, if_neg (by omega), if_pos h]

/-- above 2^62 the function panics, exactly as coded -/
theorem C19_ceil_panics (n : I) (h : 2^62 < n.toInt) : CeilToPowerOfTwo n = none := by
  rw [ceil_unfold, if_pos h]

/-- `FloorToPowerOfTwo n` for every `n > 2`: a power of two with `r ≤ n < 2r` -/
theorem C19_floor (n : I) (h0 : 2 < n.toInt) :
    ∃ k, (FloorToPowerOfTwo n).toNat = 2^k ∧ (FloorToPowerOfTwo n).toNat ≤ n.toNat ∧
      n.toNat < 2 * (FloorToPowerOfTwo n).toNat := by
  obtain ⟨e, _⟩ := toInt_eq_toNat n (by omega)
  have := log2_bounds n.toNat (by omega)
  rw [floor_eq n h0, floorNat_of_gt (by omega)]
  exact ⟨_, rfl, by omega, by omega⟩

theorem C19_floor_small (n : I) (h : n.toInt ≤ 2) : FloorToPowerOfTwo n = n := by
  rw [floor_unfold, if_pos h]

/-- `IsPowerOfTwo` is exact on positive ints -/
theorem C19_isPow2 (n : I) (h0 : 0 < n.toInt) : IsPowerOfTwo n = true ↔ ∃ k, n.toNat = 2^k := by
  rw [isPow2_iff, or_iff_right]
  rintro rfl
  exact absurd h0 (by decide)

/-- ceiling is the identity exactly on powers of two (consistency of ceil with IsPowerOfTwo) -/
theorem C19_ceil_fix (n : I) (h0 : 2 < n.toInt) (h : n.toInt ≤ 2^62) :
    CeilToPowerOfTwo n = some n ↔ IsPowerOfTwo n = true := by
  obtain ⟨r, hr, heq⟩ := ceil_eq n h0 h
  obtain ⟨e, _⟩ := toInt_eq_toNat n (by omega)
  rw [C19_isPow2 n (by omega), hr, Option.some_inj, ← BitVec.toNat_inj, heq]
  constructor
  · intro hs; exact ⟨_, hs.symm.trans (ceilNat_of_gt (by omega))⟩
  · rintro ⟨k, hk⟩; rw [hk, ceilNat_two_pow]

/-- `pool.New(max)` for every `max`: power-of-two step, 1..64 shards, step × shards = ceil(max) -/
theorem C19_config (mx : Int) :
    IsPow2 (mkCfg mx).step ∧ 1 ≤ (mkCfg mx).shards ∧ (mkCfg mx).shards ≤ 64 ∧
    (mkCfg mx).step * (mkCfg mx).shards = ceilNat (if mx < 1 then 1 else mx.toNat) := mkCfg_spec mx

/-- every class is ≥ the request and a positive multiple of the step; the shard index of a
    class that fits the pool is in range; distinct classes use distinct shards -/
theorem C19_class (c : Cfg) (h : c.WF) (i j : Int) :
    i ≤ (c.size i : Int) ∧ c.step ∣ c.size i ∧
    ((c.size i - 1) / c.step = (c.size j - 1) / c.step → c.size i = c.size j) := by
  obtain ⟨a1, a2, a3⟩ := size_spec c h i
  obtain ⟨b1, b2, b3⟩ := size_spec c h j
  have hp := h.pos
  exact ⟨a1, a3, idx_inj a3 b3 (by omega) (by omega)⟩

theorem get_cap_ge {s s' : St} {size : Int} {res : Item} {fresh : Bool} (hwf : s.cfg.WF) (hI : PInv s)
    (h : step Cfg.putIdx s (.get size res fresh) = some s') : size ≤ (res.cap : Int) := by
  obtain ⟨a1, -, hinj⟩ := C19_class s.cfg hwf size res.cap
  rcases step_get_eq_some h with ⟨_, hc, _⟩ | ⟨_, i, hi, hm, _⟩
  · rw [hc]; exact a1
  · -- a reused buffer sits in the shard of the requested class, and has a class as capacity: the same class
    obtain ⟨hcls, hshard⟩ := hI i res hm
    rw [← hcls, ← hinj (by rw [hcls, hshard, hi])]; exact a1

/-- **C19 (capacity), repaired pool**: for every pool size, every history of Get/Put — including
    Put of foreign buffers of any capacity and arbitrary loss of pooled items — every `Get(n)`
    the model admits returns a buffer of capacity at least `n`. -/
theorem C19_capacity (mx : Int) (ops : List Op) (s s' : St) (size : Int) (res : Item) (fresh : Bool)
    (h1 : run Cfg.putIdx { cfg := mkCfg mx } ops = some s)
    (h2 : step Cfg.putIdx s (.get size res fresh) = some s') : size ≤ (res.cap : Int) := by
  obtain ⟨hc, hI⟩ := run_invariant (I := fun s => s.cfg = mkCfg mx ∧ PInv s)
    (fun hI hs => ⟨(step_eq_some hs).1.trans hI.1, pinv_step hI.2 hs⟩) ⟨rfl, fun i it hm => by cases hm⟩ h1
  exact get_cap_ge (hc ▸ mkCfg_WF mx) hI h2

/-- non-vacuity: a concrete non-trivial history on the default pool is admitted -/
example : (run Cfg.putIdx { cfg := mkCfg 65536 }
    [.put ⟨1, 2048⟩, .put ⟨2, 1500⟩, .get 2000 ⟨1, 2048⟩ false, .get 2000 ⟨3, 2048⟩ true]).isSome = true := by
  decide +kernel

/-- **Negation on the pinned code** (`Put` without the size-class test): the default pool admits
    `Put(cap 1500); Get(2000)` returning the 1500-capacity buffer. Replayed on the implementation
    by the harness (known_findings.jsonl: fixed). -/
theorem C19_capacity_pinned_violated :
    ∃ s', step Cfg.putIdxPinned { cfg := mkCfg 65536, items := [] } (.put ⟨1, 1500⟩) = some s' ∧
      (step Cfg.putIdxPinned s' (.get 2000 ⟨1, 1500⟩ false)).isSome = true ∧ ¬ ((2000 : Int) ≤ 1500) := by
  refine ⟨{ cfg := mkCfg 65536, items := [(1, ⟨1, 1500⟩)] }, by decide +kernel, by decide +kernel, by decide⟩

def ids (s : St) : List Nat := s.items.map (·.2.id)

/-- **C19 (ownership)**: as long as callers only Put buffers they own (not currently pooled),
    pooled identities stay distinct, and an item handed out by Get is no longer in the pool —
    so between two Puts of a buffer at most one Get returns it. Holds for either Put variant. -/
theorem C19_exclusive (pi : Cfg → Nat → Option Nat) (s s' : St) (o : Op)
    (hn : (ids s).Nodup) (hput : ∀ it, o = .put it → it.id ∉ ids s)
    (h : step pi s o = some s') :
    (ids s').Nodup ∧ (∀ size res, o = .get size res false → res.id ∉ ids s') := by
  refine ⟨?_, ?_⟩
  · obtain ⟨_, hs | ⟨it, i, ho, _, hs⟩⟩ := step_eq_some h
    · exact (hs.map _).nodup hn
    · simp only [ids, hs, List.map_cons, List.nodup_cons]; exact ⟨hput it ho, hn⟩
  · intro size res ho; subst ho
    rcases step_get_eq_some h with ⟨hf, _⟩ | ⟨_, i, _, hm, rfl⟩
    · cases hf
    · -- the identities are distinct, so taking `(i, res)` out takes its identity out
      exact (List.nodup_cons.1 (((List.perm_cons_erase hm).map (fun x : Nat × Item => x.2.id)).nodup_iff.1 hn)).1

end NettyVerif.C19

#print axioms NettyVerif.C19.C19_ceil
#print axioms NettyVerif.C19.C19_ceil_small
#print axioms NettyVerif.C19.C19_ceil_panics
#print axioms NettyVerif.C19.C19_floor
#print axioms NettyVerif.C19.C19_floor_small
#print axioms NettyVerif.C19.C19_isPow2
#print axioms NettyVerif.C19.C19_ceil_fix
#print axioms NettyVerif.C19.C19_config
#print axioms NettyVerif.C19.C19_class
#print axioms NettyVerif.C19.C19_capacity
#print axioms NettyVerif.C19.C19_capacity_pinned_violated
#print axioms NettyVerif.C19.C19_exclusive
