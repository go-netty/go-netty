import NettyVerif.Proofs.ChanLive
/-! # C02 — No stranded writes: accepted payloads are sent and flushed unprompted -/
namespace NettyVerif.C02
open NettyVerif.Chan
variable {α : Type}

def init (sync : Bool) (cap : Nat) (untilW : Bool) : St α := { sync := sync, cap := cap, untilW := untilW }

/-- **quiescent ⇒ clean**: in every reachable state of a healthy channel in which nothing is left to
    run (no write call between its enqueue and its CAS, no executor action pending, no sender owner,
    no lingering sender, no closer, lock free) the queue and the batch are empty, everything accepted
    is on the wire and everything on the wire is flushed -/
theorem C02_quiescent_clean (sync : Bool) (cap : Nat) (untilW : Bool) (acts : List (Act α)) (s : St α)
    (hr : run (init sync cap untilW) acts = some s) (hb : s.broken = false) (hq : s.quiescent = true) :
    s.q = [] ∧ s.batch = [] ∧ s.wire = s.accepted ∧ s.flushed = s.accepted.length :=
  (reach_inv hr).quiescent_clean hb hq

/-- **no deadlock with work pending**: whenever a framework goroutine is alive or a write call is
    between enqueue and CAS, some non-client step is enabled — the sender can always move on, so a
    packet can only stay queued while somebody is still obliged (and able) to act -/
theorem C02_progress (sync : Bool) (cap : Nat) (untilW : Bool) (acts : List (Act α)) (s : St α)
    (hr : run (init sync cap untilW) acts = some s)
    (hbusy : s.pendingCas > 0 ∨ s.execPending > 0 ∨ s.snd.isSome ∨ s.lingering ≠ []) :
    ∃ a : Act α, (step s a).isSome = true ∧
      (match a with | .parentCancel => False | .beginWrite => False | .rejectWrite => False | .enqueue _ => False | .noSpace => False | .abortCtx => False | .abortClosed => False | .lock => False | .closeCas => False | _ => True) := by
  by_cases hp : s.pendingCas > 0
  · refine ⟨.casWriter, ?_, trivial⟩
    simp only [step]
    split
    · omega
    · split <;> simp
  · obtain ⟨a, hfw, hen, -⟩ := fw_enabled (reach_inv hr) (hbusy.resolve_left hp)
    exact ⟨a, hen, by cases a <;> simp [Act.framework] at hfw <;> trivial⟩

/-- **termination**: without new client activity the framework's own steps (executor start, the
    owner's poll / Writev / recycle / re-check / Flush / release, the released sender's re-check and
    re-acquire, failure handling) cannot go on for ever — for every state, every queue size and any
    number of released senders. Measure: (queue length, remaining steps of the control tokens),
    lexicographically. -/
theorem C02_framework_terminates : WellFounded (FwStep (α := α)) := by
  refine Subrelation.wf ?_ (invImage (fun s : St α => (s.q.length, pot s)) (Prod.lex Nat.lt_wfRel Nat.lt_wfRel)).wf
  intro s' s ⟨a, ha, hs⟩
  rcases fw_decreases ha hs with h | ⟨hq, hp⟩
  · exact Prod.Lex.left _ _ h
  · show Prod.Lex _ _ (s'.q.length, pot s') (s.q.length, pot s)
    rw [hq]
    exact Prod.Lex.right _ hp

/-- **eventually flushed**: from any reachable state of a healthy channel in which every write call
    has returned, let the framework run (any order, executor start delayed arbitrarily) until none
    of its steps is enabled — which must happen, by termination: then the queue and the batch are
    empty, every accepted payload is on the wire, and everything on the wire is flushed. Nothing
    stays parked waiting for a later write. -/
theorem C02_eventually_flushed (sync : Bool) (cap : Nat) (untilW : Bool) (acts fw : List (Act α)) (s s' : St α)
    (hr : run (init sync cap untilW) acts = some s) (hd : s.clientsDone)
    (hfw : ∀ a ∈ fw, a.frameworkOk = true) (hr' : run s fw = some s')
    (hmax : ∀ a : Act α, a.frameworkOk = true → step s' a = none) :
    s'.q = [] ∧ s'.batch = [] ∧ s'.wire = s'.accepted ∧ s'.flushed = s'.accepted.length := by
  have hd' := clientsDone_run hfw hd hr'
  have hinv := inv_run (reach_inv hr) hr'
  exact hinv.quiescent_clean hd'.2.2.2.2 (stuck_is_quiescent hinv hd' hmax)

/-- the lost-wake-up mutant (sender exits right after `Store idle`, no re-check) strands a packet:
    negation witness on the model without the double check -/
def stepNoRecheck (s : St Nat) : Act Nat → Option (St Nat)
  | .sndStore => match s.snd with
    | some .store => some { s with running := false, snd := none, batch := [] }
    | _ => none
  | a => step s a

def runNoRecheck (s : St Nat) : List (Act Nat) → Option (St Nat)
  | [] => some s
  | a :: as => (stepNoRecheck s a).bind (runNoRecheck · as)

theorem C02_recheck_is_necessary :
    (runNoRecheck (init false 2 true)
      [.beginWrite, .enqueue 1, .casWriter, .exec, .sndRecv, .sndDefault, .sndWritev true, .sndPut, .sndLen1,
       .beginWrite, .enqueue 2, .casWriter, .sndFlush true, .sndStore]).map (fun s => (s.q, s.quiescent)) = some ([2], true) := by
  decide

end NettyVerif.C02

#print axioms NettyVerif.C02.C02_quiescent_clean
#print axioms NettyVerif.C02.C02_progress
#print axioms NettyVerif.C02.C02_recheck_is_necessary
#print axioms NettyVerif.C02.C02_framework_terminates
#print axioms NettyVerif.C02.C02_eventually_flushed
