import NettyVerif.Model.Carrier
import NettyVerif.Proofs.Chan
/-! # C18 — Back-pressure: non-blocking mode never blocks; blocking mode is cancellable -/
namespace NettyVerif.C18
open NettyVerif.Chan
variable {α : Type}

def init (cap : Nat) (untilW : Bool) : St α := { sync := false, cap := cap, untilW := untilW }

/-- **bound**: in every reachable state the queue holds at most `cap` packets and the batch being
    assembled at most `cap/2 + 1`: accepted-but-unsent ≤ queue size + the batch being sent -/
theorem C18_bound (sync : Bool) (cap : Nat) (untilW : Bool) (acts : List (Act α)) (s : St α)
    (hr : run ({ sync := sync, cap := cap, untilW := untilW } : St α) acts = some s) :
    s.q.length ≤ s.cap ∧ s.batch.length ≤ s.cap / 2 + 1 ∧
    (s.broken = false → s.accepted.length - s.wire.length ≤ s.cap + (s.cap / 2 + 1)) := by
  have hinv := reach_inv hr
  refine ⟨hinv.qLe, hinv.batchLe, fun hb => ?_⟩
  have := congrArg List.length (hinv.fifo hb)
  have h1 := hinv.qLe
  have h2 := hinv.batchLe
  simp [batchCap] at this h2
  omega

/-- the queue-full error is produced only by a state whose queue really is full (non-blocking mode) -/
theorem C18_nospace_only_when_full (s s' : St α) (h : step s .noSpace = some s') :
    s.q.length = s.cap ∧ s.untilW = false ∧ s'.accepted = s.accepted ∧ s'.wire = s.wire ∧ s'.q = s.q := by
  step_cases step h
  rename_i hc
  simp at hc
  simp [hc]

/-- **non-blocking mode never waits**: in every reachable state of a non-blocking queued channel a
    write call at its enqueue point has an enabled step — it is accepted if there is room, and gets
    the queue-full error otherwise -/
theorem C18_nonblocking_never_parks (cap : Nat) (acts : List (Act α)) (s : St α) (p : α)
    (hr : run (init cap false : St α) acts = some s) :
    (s.inflight > 0 → s.q.length < s.cap → (step s (.enqueue p)).isSome = true) ∧
    (s.inflight > 0 → ¬ s.q.length < s.cap → (step s .noSpace).isSome = true) := by
  have hinv := reach_inv hr
  have hsync : s.sync = false := (run_mono hr).sync
  have huntil : s.untilW = false := (run_mono hr).untilW
  constructor
  · intro hin hlt; simp [step, hsync, hlt, hin]
  · intro hin hge
    have := hinv.qLe
    have : s.q.length = s.cap := by omega
    simp [step, hsync, huntil, this, hin]

/-- blocking mode: a parked call becomes enabled exactly when there is room; a call that gives up
    because its context ended or the channel closed leaves the state — in particular `accepted` and
    the wire — untouched (it transmits nothing) -/
theorem C18_blocking_enabled_iff_room (s : St α) (p : α) (hs : s.sync = false) (hin : s.inflight > 0) :
    (step s (.enqueue p)).isSome = true ↔ s.q.length < s.cap := by
  simp [step, hs, hin]

theorem C18_abort_transmits_nothing (s s' : St α) (a : Act α) (ha : a = .abortCtx ∨ a = .abortClosed)
    (h : step s a = some s') : s'.accepted = s.accepted ∧ s'.wire = s.wire ∧ s'.q = s.q := by
  rcases ha with rfl | rfl <;> step_cases step h <;> simp

/-- **streaming entry point**: ReadFrom on a non-blocking channel with `free` free queue slots and a
    stalled sender queues exactly the chunks that fit, in order, and reports the queue-full error iff
    a chunk did not fit — it never waits for the sender (the function is total and looks at nothing
    but the chunk count and the free slots) -/
theorem C18_readfrom_nonblocking (chunks : List NettyVerif.Carrier.Bytes) (free : Nat) :
    let r := NettyVerif.Carrier.readFromNoSpace chunks free
    r.1 = chunks.take free ∧ r.1.length ≤ free ∧ (r.2.2 = true ↔ free < chunks.length) ∧
    (r.2.2 = false → r.2.1 = chunks.flatten.length) := by
  unfold NettyVerif.Carrier.readFromNoSpace
  by_cases h : chunks.length ≤ free
  · simp [h, List.take_of_length_le h]
  · simp [h]
    omega

end NettyVerif.C18

#print axioms NettyVerif.C18.C18_readfrom_nonblocking
#print axioms NettyVerif.C18.C18_bound
#print axioms NettyVerif.C18.C18_nospace_only_when_full
#print axioms NettyVerif.C18.C18_nonblocking_never_parks
#print axioms NettyVerif.C18.C18_blocking_enabled_iff_room
#print axioms NettyVerif.C18.C18_abort_transmits_nothing
