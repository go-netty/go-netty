import NettyVerif.Proofs.Json
import NettyVerif.Props.C14
/-! # C16 — text and JSON codecs round-trip and reject malformed frames

JSON: values are trees over null / bool / number literal / string / array / object; `enc` is
encoding/json's encoder for them (compact, HTML-safe escapes), `parse` a recursive-descent parser
with the decoder's semantics (Model/Json.lean, both validated against encoding/json by the tie);
`decodeFrame` is the codec's read side: the first value of the frame must be an object.
Text: the codec moves bytes between a string and a carrier without transformation. -/
namespace NettyVerif.C16
open NettyVerif.Json

/-- **JSON round trip**: every object — any nesting, any keys and strings (every Unicode scalar
    value, incl. quotes, control characters, `<>&`, U+2028), any number literal (integers beyond
    2^53, fractions, exponents) — written by the encoder is read back as the identical object,
    whatever follows it in the frame -/
theorem C16_json_roundtrip (m : JM) (hw : m.wf = true) (trailing : List Char) :
    decodeFrame false (enc (.obj m) ++ trailing) = .deliver (.obj m) := by
  simp [decodeFrame, parse_enc (.obj m) hw trailing trivial]

/-- the same for every value inside a frame: the parser inverts the encoder (a bare number needs
    to be followed by something that cannot continue it) -/
theorem C16_json_value_roundtrip (v : JV) (hw : v.wf = true) (rest : List Char) (hr : needRest v rest) :
    parse (enc v ++ rest) = some (v, rest) := parse_enc v hw rest hr

/-- **only objects are delivered**: a message is delivered exactly when the frame begins (after
    whitespace) with one complete valid JSON value and that value is an object; `null`, arrays,
    numbers, strings, truncated or otherwise malformed text raise — and the codec never delivers
    a nil map -/
theorem C16_json_delivers_only_objects (frame : List Char) :
    (∀ v, decodeFrame false frame = .deliver v → ∃ m rest, parse frame = some (.obj m, rest) ∧ v = .obj m) ∧
    decodeFrame false frame ≠ .deliverNil ∧
    ((∀ m rest, parse frame ≠ some (.obj m, rest)) → decodeFrame false frame = .raise) := by
  unfold decodeFrame
  split
  · rename_i m rest hp
    exact ⟨fun v h => ⟨m, rest, hp, (Outcome.deliver.inj h).symm⟩, nofun, fun hno => absurd hp (hno m rest)⟩
  all_goals exact ⟨nofun, nofun, fun _ => rfl⟩

/-- what is delivered is a well-formed object that encodes and parses back to itself -/
theorem C16_json_delivered_is_stable (frame : List Char) (v : JV) (h : decodeFrame false frame = .deliver v) :
    v.wf = true ∧ decodeFrame false (enc v) = .deliver v := by
  obtain ⟨m, rest, hp, rfl⟩ := (C16_json_delivers_only_objects frame).1 v h
  have hw : (JV.obj m).wf = true := (parser_wf _).1 _ _ _ hp
  exact ⟨hw, by simpa using C16_json_roundtrip m hw []⟩

/-- the pinned codec delivered a nil map for the frame `null` (also ` null `, `nullx`); the repaired
    one raises -/
theorem C16_pinned_null_delivers_nil :
    (match decodeFrame true "null".toList with | .deliverNil => true | _ => false) = true ∧
    (match decodeFrame true " null x".toList with | .deliverNil => true | _ => false) = true ∧
    (match decodeFrame false "null".toList with | .raise => true | _ => false) = true := by decide

/-- malformed frames raise (instances of the rejection theorem, evaluated in the kernel) -/
theorem C16_json_rejects_examples :
    ["", " ", "[1,2]", "12", "\"s\"", "true", "{", "{\"a\":1", "{\"a\":01}", "{\"a\":1,}", "{\"a\" 1}", "{a:1}", "{\"a\":\"\\x\"}", "{\"a\":tru}", "{\"a\":1e}", "{\"a\":\"\n\"}"].all
      (fun f => match decodeFrame false f.toList with | .raise => true | _ => false) = true := by decide +kernel

/-- … and frames that begin with a complete object are delivered whatever follows -/
theorem C16_json_accepts_examples :
    ["{}", " {\"a\":1}", "{\"a\":[1,2,{\"b\":null}]}}}", "{\"k\":\"\\u00e9\\ud83d\\ude00\"} trailing", "{\"n\":-1.5e+10}{", "\t{\r\n}"].all
      (fun f => match decodeFrame false f.toList with | .deliver _ => true | _ => false) = true := by decide +kernel

open NettyVerif.Carrier

/-- textCodec.HandleWrite: a string goes down as a strings.Reader over its bytes -/
def textWrite (s : Bytes) : Msg := .bytesReader s
/-- textCodec.HandleRead: utils.MustToBytes of whatever carrier arrives, converted to a string -/
def textRead (m : Msg) : Except Unit Bytes := toBytes m

/-- **text identity**: the bytes that reach the wire for a string are exactly its bytes, and a
    carrier holding those bytes is read back as the identical string — every byte value, any length;
    nothing is transformed, trimmed or re-encoded -/
theorem C16_text_identity (s : Bytes) :
    (textWrite s).content = some s ∧
    (∀ m : Msg, m.content = some s → ∀ b, textRead m = .ok b → b = s) ∧
    textRead (.bytes s) = .ok s ∧ textRead (.bytesReader s) = .ok s ∧ textRead (.str s) = .ok s ∧
    (∀ script, scriptError script = none → scriptContent script = s → textRead (.reader script) = .ok s) := by
  refine ⟨rfl, fun m hm b hb => ?_, rfl, rfl, rfl, fun script he hc => by simp [textRead, toBytes, he, hc]⟩
  have := NettyVerif.C14.C14_toBytes_exact m
  rw [show toBytes m = .ok b from hb, hm] at this
  exact (Option.some.inj this).symm

end NettyVerif.C16

#print axioms NettyVerif.C16.C16_json_roundtrip
#print axioms NettyVerif.C16.C16_json_value_roundtrip
#print axioms NettyVerif.C16.C16_json_delivers_only_objects
#print axioms NettyVerif.C16.C16_json_delivered_is_stable
#print axioms NettyVerif.C16.C16_pinned_null_delivers_nil
#print axioms NettyVerif.C16.C16_json_rejects_examples
#print axioms NettyVerif.C16.C16_json_accepts_examples
#print axioms NettyVerif.C16.C16_text_identity
