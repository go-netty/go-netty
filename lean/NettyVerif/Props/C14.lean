import NettyVerif.Model.Carrier
/-! # C14 — Accepted outbound types are sent byte-exact; conversions preserve content -/
namespace NettyVerif.C14
open NettyVerif.Carrier

def wire (ws : List LowWrite) : Bytes := (ws.map LowWrite.bytes).flatten

@[simp] theorem wire_nil : wire [] = [] := rfl

theorem readScript_size (s : ReadScript) (k : Nat) (hk : 0 < k) (hs : s ≠ []) :
    scriptSize (readScript s k).2.2 < scriptSize s := by
  cases s with
  | nil => exact absurd rfl hs
  | cons x rest =>
    obtain ⟨d, e⟩ := x
    simp only [readScript]
    split
    · simp only [scriptSize]; omega
    · simp only [scriptSize, List.length_drop]; omega

/-- one Read splits the script's content: without an error the rest follows, an error ends it -/
theorem readScript_spec (s : ReadScript) (k : Nat) :
    match (readScript s k).2.1 with
    | none => s ≠ [] ∧ scriptContent s = (readScript s k).1 ++ scriptContent (readScript s k).2.2 ∧
        scriptError s = scriptError (readScript s k).2.2
    | some e => scriptContent s = (readScript s k).1 ∧ scriptError s = if e = .eof then none else some e := by
  match s with
  | [] => simp [readScript, scriptContent, scriptError]
  | (d, e) :: rest =>
    by_cases hd : d.length ≤ k <;> rcases e with _ | _ | _ <;>
      simp [readScript, hd, scriptContent, scriptError, ← List.append_assoc]

theorem wire_write1 (d : Bytes) (ws : List LowWrite) :
    wire ((if d.isEmpty then [] else [LowWrite.write1 d]) ++ ws) = d ++ wire ws := by
  cases h : d.isEmpty <;> simp_all [wire, LowWrite.bytes, List.isEmpty_iff]

/-- the ReadFrom loop forwards exactly the reader's content (everything up to its first error or
    EOF), in order, in pieces of 1..chunk bytes, and reports that error (EOF is success) -/
theorem readFrom_exact (chunk : Nat) (hc : 0 < chunk) : ∀ (fuel : Nat) (s : ReadScript), scriptSize s < fuel →
    wire (readFrom chunk fuel s).1 = scriptContent s ∧ (readFrom chunk fuel s).2 = scriptError s
  | 0, _, h => by omega
  | fuel+1, s, h => by
    have hsp := readScript_spec s chunk
    rw [readFrom]
    cases he : (readScript s chunk).2.1 with
    | none =>
      rw [he] at hsp
      have ih := readFrom_exact chunk hc fuel _ (Nat.lt_of_lt_of_le (readScript_size s chunk hc hsp.1) (Nat.le_of_lt_succ h))
      simp only [he, wire_write1, ih, hsp.2.1, hsp.2.2, and_self]
    | some e =>
      rw [he] at hsp
      have := wire_write1 (readScript s chunk).1 []
      cases e <;> simp_all

/-- **head of the pipeline**: for every accepted message type, every content and every reader
    behaviour (short reads of every size, data together with EOF, error after data), the low-level
    writes carry exactly the message's bytes, in order -/
theorem C14_head_bytes (m : Msg) (ws : List LowWrite) (err : Option RErr) (h : headWrites m = some (ws, err)) :
    m.content = some (wire ws) := by
  cases m with
  | reader s =>
    simp only [headWrites, Option.some.injEq] at h
    have := readFrom_exact 1024 (by omega) (scriptSize s + 1) s (by omega)
    rw [h] at this
    simp [Msg.content, this.1]
  | bytesReader b =>
    obtain ⟨rfl, -⟩ : _ = ws ∧ _ := by simpa [headWrites] using h
    simpa [Msg.content] using (wire_write1 b []).symm
  | _ =>
    simp [headWrites] at h
    all_goals obtain ⟨rfl, -⟩ := h
    all_goals simp [Msg.content, wire, LowWrite.bytes, List.map_map, Function.comp_def]

/-- any other type (and a bare string) raises and writes nothing -/
theorem C14_head_rejects : headWrites .other = none ∧ ∀ b, headWrites (.str b) = none := by
  simp [headWrites]

theorem C14_reader_error_reported (s : ReadScript) :
    (readFrom 1024 (scriptSize s + 1) s).2 = scriptError s :=
  (readFrom_exact 1024 (by omega) (scriptSize s + 1) s (by omega)).2

/-- ToBytes returns exactly the content of every supported input and an error otherwise -/
theorem C14_toBytes_exact (m : Msg) :
    match toBytes m with
    | .ok b => m.content = some b
    | .error _ => m = .other ∨ ∃ s, m = .reader s ∧ (scriptError s).isSome := by
  cases m with
  | reader s => by_cases h : (scriptError s).isSome <;> simp [toBytes, h, Msg.content]
  | _ => simp [toBytes, Msg.content]

theorem C14_countOf (bs : List Bytes) : countOf bs = bs.flatten.length := by
  rw [List.length_flatten, List.sum_eq_foldl_nat]; rfl

/-- pinned ByteStealer, negation witness (replayed on the implementation before fix 92c6c2e):
    a WriterTo writing "ab" then "cd" from one scratch buffer was returned as "cdcd" -/
theorem C14_steal_pinned_corrupts : stealPinned [[97, 98], [99, 100]] = [99, 100, 99, 100] ∧
    toBytes (.writerTo [[97, 98], [99, 100]]) = .ok [97, 98, 99, 100] := ⟨by decide, rfl⟩

/-- non-vacuity: a reader delivering short reads, an oversized fragment and data together with EOF -/
example : headWrites (.reader [([1, 2], none), ([], none), (List.replicate 1500 7, none), ([9], some .eof), ([5], none)]) =
    some ([.write1 [1, 2], .write1 (List.replicate 1024 7), .write1 (List.replicate 476 7), .write1 [9]], none) := by
  decide +kernel

end NettyVerif.C14

#print axioms NettyVerif.C14.readFrom_exact
#print axioms NettyVerif.C14.C14_head_bytes
#print axioms NettyVerif.C14.C14_head_rejects
#print axioms NettyVerif.C14.C14_reader_error_reported
#print axioms NettyVerif.C14.C14_toBytes_exact
#print axioms NettyVerif.C14.C14_countOf
#print axioms NettyVerif.C14.C14_steal_pinned_corrupts
