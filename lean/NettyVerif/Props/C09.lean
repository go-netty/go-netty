import NettyVerif.Proofs.Wire
/-! # C09 — a message's bytes are contiguous on the wire under concurrent writers

Theorems over Model/Wire.lean: any number of goroutines, any messages (any carrier type = any
list of low-level writes), any interleaving of their steps. With the head handler's message lock
(the repaired code) the wire always is a sequence of whole messages, in the order in which the
head writes began, followed by a prefix of the lock holder's message. -/
namespace NettyVerif.C09
open NettyVerif.Wire

variable {α : Type}

/-- **whole messages only**: in every reachable state the bytes on the wire are the bytes of
    complete messages, in lock order, followed by a prefix of at most one message in progress -/
theorem C09_wire_is_whole_messages (acts : List (Act α)) (s : St α) (hr : run {} acts = some s) :
    ∃ (done : List (Msg α)) (partialChunks : List (List α)),
      wireBytes s.wire = (done.map Msg.bytes).flatten ++ partialChunks.flatten ∧
      (s.cur = [] → partialChunks = [] ∧ done = s.order) ∧
      (∀ t m rest, s.cur = [(t, m, rest)] → s.order = done ++ [m] ∧ m.chunks = partialChunks ++ rest) := by
  have hat := (inv_run inv_init hr).atCur
  split at hat
  · rename_i hc
    exact ⟨s.order, [], by rw [hat.2, wireBytes_tagged]; simp, fun _ => ⟨rfl, rfl⟩, by simp [hc]⟩
  · rename_i t m rest hc
    obtain ⟨-, pre, sent, ho, hm, hw⟩ := hat
    refine ⟨pre, sent, by rw [hw, wireBytes_append, wireBytes_tagged, wireBytes_map_tag], by simp [hc], ?_⟩
    intro t' m' rest' h
    rw [hc] at h; cases h
    exact ⟨ho, hm⟩
  · exact hat.elim

/-- **contiguity at rest**: when no head write is in progress every message that was written has
    its low-level writes adjacent on the wire, in order, with nothing of another message between -/
theorem C09_contiguous (acts : List (Act α)) (s : St α) (hr : run {} acts = some s) (hq : s.cur = [])
    (pre : List (Msg α)) (m : Msg α) (post : List (Msg α)) (ho : s.order = pre ++ m :: post) :
    s.wire = tagged pre ++ m.chunks.map (fun c => (m.id, c)) ++ tagged post ∧
    wireBytes s.wire = (pre.map Msg.bytes).flatten ++ m.bytes ++ (post.map Msg.bytes).flatten := by
  have hat := (inv_run inv_init hr).atCur
  rw [hq] at hat
  have h1 : s.wire = tagged pre ++ m.chunks.map (fun c => (m.id, c)) ++ tagged post := by
    rw [hat.2, ho, List.append_cons, tagged_append, tagged_append, tagged_single]
  refine ⟨h1, ?_⟩
  rw [h1, wireBytes_append, wireBytes_append, wireBytes_tagged, wireBytes_tagged, wireBytes_map_tag]; rfl

/-- the message lock admits one head write at a time -/
theorem C09_one_writer_at_a_time (acts : List (Act α)) (s : St α) (hr : run {} acts = some s) : s.cur.length ≤ 1 := by
  have hat := (inv_run inv_init hr).atCur
  split at hat
  · simp [*]
  · simp [*]
  · exact hat.elim

def mA : Msg Nat := { id := 1, chunks := [[1, 2], [3]] }      -- e.g. payload + delimiter as two writes of a MultiReader
def mB : Msg Nat := { id := 2, chunks := [[7, 8], [9]] }

/-- without the lock two streamed messages interleave: the wire is neither A·B nor B·A -/
theorem C09_pinned_interleaves :
    (run ({ useLock := false } : St Nat) [.start 1 mA, .start 2 mB, .chunk 1, .chunk 2, .chunk 1, .chunk 2, .finish 1, .finish 2]).map
      (fun s => (wireBytes s.wire, decide (wireBytes s.wire = mA.bytes ++ mB.bytes), decide (wireBytes s.wire = mB.bytes ++ mA.bytes))) =
    some ([1, 2, 7, 8, 3, 9], false, false) := by decide

/-- … and the same schedule is not a run of the locked model: the second writer has to wait -/
theorem C09_locked_blocks_second_writer :
    run ({} : St Nat) [.start 1 mA, .start 2 mB] = none := by decide

/-- with or without the message lock, every low-level write on the wire is a chunk of a message
    whose head write was started -/
theorem wire_chunks_started {acts : List (Act α)} {s0 s : St α} (hr : run s0 acts = some s)
    (h0 : s0.wire = [] ∧ s0.cur = []) :
    ∀ e ∈ s.wire, ∃ t m, Act.start t m ∈ acts ∧ m.id = e.1 ∧ e.2 ∈ m.chunks := by
  -- invariant: the statement itself for `s.wire`, and what a goroutine still has to write are chunks of its started message
  refine (run_invariant_of (A := (· ∈ acts))
    (I := fun s : St α => (∀ e ∈ s.wire, ∃ t m, Act.start t m ∈ acts ∧ m.id = e.1 ∧ e.2 ∈ m.chunks) ∧
      ∀ x ∈ s.cur, (∃ t, Act.start t x.2.1 ∈ acts) ∧ ∀ c ∈ x.2.2, c ∈ x.2.1.chunks)
    ?_ (fun _ h => h) ⟨by simp [h0.1], by simp [h0.2]⟩ hr).1
  rintro s1 s2 a hain ⟨hw, hc⟩ hs
  cases a with
  | start t m =>
    simp only [step] at hs
    split at hs; · cases hs
    split at hs <;> cases hs
    refine ⟨hw, fun x hx => ?_⟩
    rcases List.mem_append.1 hx with hx | hx
    · exact hc x hx
    · cases List.mem_singleton.1 hx; exact ⟨⟨t, hain⟩, fun c h => h⟩
  | chunk t =>
    simp only [step] at hs
    split at hs <;> cases hs
    rename_i t' m c rest hfind
    obtain ⟨⟨t0, hst⟩, hch⟩ := hc _ (List.mem_of_find?_eq_some hfind)
    refine ⟨fun e he => ?_, fun x hx => ?_⟩
    · rcases List.mem_append.1 he with he | he
      · exact hw e he
      · cases List.mem_singleton.1 he; exact ⟨t0, m, hst, rfl, hch c (List.mem_cons_self ..)⟩
    · obtain ⟨y, hy, rfl⟩ := List.mem_map.1 hx
      split
      · exact ⟨⟨t0, hst⟩, fun c' h => hch c' (List.mem_cons_of_mem _ h)⟩
      · exact hc y hy
  | finish t =>
    simp only [step] at hs
    split at hs <;> cases hs
    exact ⟨hw, fun x hx => hc x (List.mem_filter.1 hx).1⟩

/-- partial statement that already held on the pinned code: messages that are ONE low-level
    write ([]byte, [][]byte, *bytes.Buffer) are contiguous without any message lock — every chunk on
    the wire is a whole message -/
theorem C09_single_write_messages_partial (acts : List (Act α)) (s0 s : St α) (hr : run s0 acts = some s)
    (h0 : s0.wire = [] ∧ s0.cur = [])
    (hone : ∀ t m, Act.start t m ∈ acts → ∃ c, m.chunks = [c]) :
    ∀ e ∈ s.wire, ∃ t m, Act.start t m ∈ acts ∧ m.id = e.1 ∧ m.bytes = e.2 := by
  intro e he
  obtain ⟨t, m, hst, hid, hmem⟩ := wire_chunks_started hr h0 e he
  obtain ⟨c, hc⟩ := hone t m hst
  rw [hc, List.mem_singleton] at hmem
  exact ⟨t, m, hst, hid, by simp [Msg.bytes, hc, hmem]⟩

/-- non-vacuity: a reachable state of the locked model with two whole messages on the wire -/
example : (run ({} : St Nat) [.start 1 mA, .chunk 1, .chunk 1, .finish 1, .start 2 mB, .chunk 2, .chunk 2, .finish 2]).map
    (fun s => (wireBytes s.wire, s.cur.length)) = some ([1, 2, 3, 7, 8, 9], 0) := by decide

end NettyVerif.C09

#print axioms NettyVerif.C09.C09_wire_is_whole_messages
#print axioms NettyVerif.C09.C09_contiguous
#print axioms NettyVerif.C09.C09_one_writer_at_a_time
#print axioms NettyVerif.C09.C09_pinned_interleaves
#print axioms NettyVerif.C09.C09_locked_blocks_second_writer
#print axioms NettyVerif.C09.C09_single_write_messages_partial
