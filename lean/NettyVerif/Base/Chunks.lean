/-! A byte source is a list of chunks; one `Read` (ExactR.srcRead, VarLen.step, Transport.connRead)
    takes at most `k` bytes from the first chunk and puts the remainder back: nothing is lost. -/
namespace NettyVerif

theorem take_rest_flatten {α} (c : List α) (cs : List (List α)) (k : Nat) :
    c.take k ++ (if c.length ≤ k then cs else c.drop k :: cs).flatten = (c :: cs).flatten := by
  split
  · rw [List.take_of_length_le ‹_›, List.flatten_cons]
  · rw [List.flatten_cons, ← List.append_assoc, List.take_append_drop, List.flatten_cons]

end NettyVerif
