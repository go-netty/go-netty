/-! The transition-system models (Chan, Boot, Life, Wire, Heap, Pool) run a list of actions through a
    partial step function in the same way (`run s (a :: as) = (step s a).bind (run · as)`); this is the
    induction they share, and the case analysis on an enabled step that the invariants of Chan, Boot and Life
    are proved by. -/
namespace NettyVerif

/-- `A` restricts the actions; `hnil` and `hcons` are the two defining equations of `run`, which `rfl` finds -/
theorem run_invariant_of {σ α : Type} {step : σ → α → Option σ} {run : σ → List α → Option σ}
    {I : σ → Prop} {A : α → Prop} (hstep : ∀ {s s' a}, A a → I s → step s a = some s' → I s')
    {acts : List α} {s s' : σ} (hA : ∀ a ∈ acts, A a) (h : I s) (hr : run s acts = some s')
    (hnil : ∀ s, run s [] = some s := by intros; rfl)
    (hcons : ∀ s a as, run s (a :: as) = (step s a).bind (run · as) := by intros; rfl) : I s' := by
  induction acts generalizing s with
  | nil => rw [hnil] at hr; cases hr; exact h
  | cons a as ih =>
    rw [hcons, Option.bind_eq_some_iff] at hr
    obtain ⟨s1, hs, hr⟩ := hr
    exact ih (fun x hx => hA x (List.mem_cons_of_mem _ hx)) (hstep (hA a (List.mem_cons_self ..)) h hs) hr

theorem run_invariant {σ α : Type} {step : σ → α → Option σ} {run : σ → List α → Option σ}
    {I : σ → Prop} (hstep : ∀ {s s' a}, I s → step s a = some s' → I s')
    {acts : List α} {s s' : σ} (h : I s) (hr : run s acts = some s')
    (hnil : ∀ s, run s [] = some s := by intros; rfl)
    (hcons : ∀ s a as, run s (a :: as) = (step s a).bind (run · as) := by intros; rfl) : I s' :=
  run_invariant_of (A := fun _ => True) (fun _ => hstep) (fun _ _ => trivial) h hr hnil hcons

/-- `step_cases f h`, for `h : f s a = some s'` with `a` a constructor application and `f` a step
    function defined by cases on the action: one goal for each branch of `f` that returns a state,
    with `s'` replaced by that state and the conditions of the branch in the context. -/
macro "step_cases " f:ident h:ident : tactic =>
  `(tactic| (simp only [$f:ident] at $h:ident <;> (repeat' split at $h:ident) <;> simp at $h:ident <;> (try subst $h:ident)))

end NettyVerif
